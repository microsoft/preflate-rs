/-
C02/C08, one token (token_predictor.rs). `calculate_hops` and `hop_match` walk the same candidate list in lock
step (`hopsWalk_inv`), so the hop count gives back the distance; `decTok` then takes the branch `encTok` took.
`encRefTail` / `decRefTail` name what both do for a reference after the prediction: its three distance cases are
analysed once (`encRefTail_ok`).
-/
import Preflate.Model.Valid
import Preflate.Proofs.PredictOps
namespace Preflate.Proofs
open Preflate

variable {H : Type}

/-- The two chain walks run in lock step: `h - k` is the number of matching candidates up to and including
    the target, so `hopMatchWalk` entered with any counter `cur` and asked for hop `h - k + cur` stops on it. -/
theorem hopsWalk_inv (plain : Array Nat) (pos maxDist len target : Nat)
    (hm : matchAt plain pos len target = true) :
    ∀ (cs : List Nat) (k mc h : Nat),
      hopsWalk plain pos maxDist len target cs k mc = .ok h →
      k + 1 ≤ h ∧ ∀ cur, hopMatchWalk plain pos maxDist len (h - k + cur) cs cur = .ok target := by
  intro cs
  induction cs with
  | nil => intro k mc h hh; cases hh
  | cons d rest ih =>
    intro k mc h hh
    rw [hopsWalk] at hh
    by_cases hd : d > maxDist
    · rw [if_pos hd] at hh
      cases hh
    rw [if_neg hd] at hh
    dsimp only at hh
    by_cases hge : d ≥ target
    · rw [if_pos hge] at hh
      by_cases heq : d = target
      · subst heq
        rw [if_pos rfl, if_pos hm] at hh
        cases hh
        refine ⟨Nat.le_refl _, fun cur => ?_⟩
        rw [hopMatchWalk, if_neg hd, if_pos hm, if_pos (by omega)]
      · rw [if_neg heq] at hh
        cases hh
    rw [if_neg hge] at hh
    by_cases hmc : mc ≤ 1
    · rw [if_pos hmc] at hh
      cases hh
    rw [if_neg hmc] at hh
    by_cases hmd : matchAt plain pos len d = true
    · rw [if_pos hmd] at hh
      obtain ⟨h1, h2⟩ := ih _ _ _ hh
      refine ⟨by omega, fun cur => ?_⟩
      rw [hopMatchWalk, if_neg hd, if_pos hmd, if_neg (by omega), ← h2 (cur + 1)]
      congr 1
      omega
    · rw [if_neg hmd] at hh
      obtain ⟨h1, h2⟩ := ih _ _ _ hh
      refine ⟨h1, fun cur => ?_⟩
      rw [hopMatchWalk, if_neg hd, if_neg hmd]
      exact h2 cur

theorem hops_inv' (P : Pred H) (plain : Array Nat) (s : PState H) (len dist h : Nat)
    (hm : matchAt plain s.pos len dist = true)
    (hh : calcHops P plain s len dist = .ok h) :
    h ≠ 0 ∧ hopMatch P plain s len h = .ok dist := by
  unfold calcHops at hh
  unfold hopMatch
  by_cases hg : min (s.remaining plain) Gen.MAX_MATCH < len
  · rw [if_pos hg] at hh
    cases hh
  · rw [if_neg hg] at hh ⊢
    obtain ⟨h1, h2⟩ := hopsWalk_inv plain s.pos _ len dist hm _ _ _ _ hh
    exact ⟨by omega, h2 0⟩

/-- `encTok` for a reference, after the prediction: the corrections -/
def encRefTail (P : Pred H) (plain : Array Nat) (ops0 : List Op) (plen pdist : Nat) (s2 : PState H)
    (len dist : Nat) (irr : Bool) : R (List Op × PState H) := do
  let ops1 := [Op.corr C_LEN (encDiff plen len)]
  let ops2 ←
    if plen ≠ len then do
      let h ← calcHops P plain s2 len dist
      pure [Op.corr C_DIST_AFTER_LEN h]
    else if dist ≠ pdist then do
      let h ← calcHops P plain s2 len dist
      pure [Op.corr C_DIST_ONLY h]
    else pure [Op.corr C_DIST_ONLY 0]
  let ops3 := if len = 258 then [Op.mis M_IRREGULAR258 irr] else []
  .ok (ops0 ++ ops1 ++ ops2 ++ ops3, commit P plain s2 (Token.ref len dist irr))

/-- `decTok` for a reference, after the prediction: reading the corrections -/
def decRefTail (P : Pred H) (plain : Array Nat) (plen pdist : Nat) (ops : List Op) (s2 : PState H) :
    R (Token × List Op × PState H) := do
  let (c, ops) ← popCorr C_LEN ops
  let newLen ← decDiff plen c
  let (len, dist, ops) ← (
    if newLen ≠ plen then do
      let (hops, ops) ← popCorr C_DIST_AFTER_LEN ops
      let d ← hopMatch P plain s2 newLen hops
      pure (newLen, d, ops)
    else do
      let (hops, ops) ← popCorr C_DIST_ONLY ops
      if hops ≠ 0 then do
        let d ← hopMatch P plain s2 plen hops
        pure (newLen, d, ops)
      else pure (plen, pdist, ops) : R (Nat × Nat × List Op))
  let (irr, ops) ← (if len = 258 then popMis M_IRREGULAR258 ops else pure (false, ops) : R (Bool × List Op))
  let t := Token.ref len dist irr
  .ok (t, ops, commit P plain s2 t)

/-- an accepted `encRefTail`: after the length correction a hop count, under `C_DIST_AFTER_LEN` if the length
    was mispredicted, else under `C_DIST_ONLY` (0 if the distance was predicted too) -/
theorem encRefTail_ok {P : Pred H} {plain : Array Nat} {ops0 : List Op} {plen pdist : Nat} {s2 : PState H}
    {len dist : Nat} {irr : Bool} {ops : List Op} {s' : PState H}
    (he : encRefTail P plain ops0 plen pdist s2 len dist irr = .ok (ops, s')) :
    s' = commit P plain s2 (.ref len dist irr) ∧ ∃ cd h,
      ops = ops0 ++ ([Op.corr C_LEN (encDiff plen len), Op.corr cd h] ++
        if len = 258 then [Op.mis M_IRREGULAR258 irr] else []) ∧
      ((plen ≠ len ∧ cd = C_DIST_AFTER_LEN ∧ calcHops P plain s2 len dist = .ok h) ∨
       (plen = len ∧ dist ≠ pdist ∧ cd = C_DIST_ONLY ∧ calcHops P plain s2 len dist = .ok h) ∨
       (plen = len ∧ dist = pdist ∧ cd = C_DIST_ONLY ∧ h = 0)) := by
  have hassoc : ∀ a b : List Op, ops0 ++ [Op.corr C_LEN (encDiff plen len)] ++ a ++ b =
      ops0 ++ ([Op.corr C_LEN (encDiff plen len)] ++ a ++ b) := fun a b => by
    simp only [List.append_assoc]
  unfold encRefTail at he
  dsimp only at he
  by_cases h1 : plen ≠ len
  · rw [if_pos h1] at he
    obtain ⟨h, hh, he⟩ := (bind_eq_ok ..).mp he
    cases he
    exact ⟨rfl, _, h, hassoc .., .inl ⟨h1, rfl, hh⟩⟩
  rw [if_neg h1] at he
  by_cases h2 : dist ≠ pdist
  · rw [if_pos h2] at he
    obtain ⟨h, hh, he⟩ := (bind_eq_ok ..).mp he
    cases he
    exact ⟨rfl, _, h, hassoc .., .inr (.inl ⟨Decidable.of_not_not h1, h2, rfl, hh⟩)⟩
  · rw [if_neg h2] at he
    cases he
    exact ⟨rfl, _, 0, hassoc .., .inr (.inr ⟨Decidable.of_not_not h1, Decidable.of_not_not h2, rfl, rfl⟩)⟩

/-- the irregular-258 flag is read back (it is only written, and only set, for length 258) -/
theorem popIrr (len : Nat) (irr : Bool) (hirr : irr = true → len = 258) (rest : List Op) :
    (if len = 258 then popMis M_IRREGULAR258 ((if len = 258 then [Op.mis M_IRREGULAR258 irr] else []) ++ rest)
      else pure (false, (if len = 258 then [Op.mis M_IRREGULAR258 irr] else []) ++ rest) : R (Bool × List Op))
      = .ok (irr, rest) := by
  by_cases h : len = 258
  · simp only [h, if_true, List.cons_append, List.nil_append, popMis_cons]
  · have : irr = false := by
      cases irr
      · rfl
      · exact absurd (hirr rfl) h
    simp only [h, if_false, List.nil_append, this]
    rfl

theorem refTail_rt (P : Pred H) (plain : Array Nat) (ops0 : List Op) (plen pdist : Nat) (s2 : PState H)
    (len dist : Nat) (irr : Bool) (hm : matchAt plain s2.pos len dist = true)
    (hirr : irr = true → len = 258) (ops : List Op) (s' : PState H)
    (he : encRefTail P plain ops0 plen pdist s2 len dist irr = .ok (ops, s')) (rest : List Op) :
    ∃ ops', ops = ops0 ++ ops' ∧
      decRefTail P plain plen pdist (ops' ++ rest) s2 = .ok (Token.ref len dist irr, rest, s') := by
  obtain ⟨rfl, cd, h, rfl, hc⟩ := encRefTail_ok he
  refine ⟨_, rfl, ?_⟩
  have hpi := popIrr len irr hirr rest
  unfold decRefTail
  simp only [List.cons_append, List.nil_append, popCorr_cons, ok_bind, decDiff_encDiff]
  -- the decoder takes the branch the encoder took; `hops_inv'` turns the hop count back into the distance
  rcases hc with ⟨h1, rfl, hh⟩ | ⟨rfl, h2, rfl, hh⟩ | ⟨rfl, rfl, rfl, rfl⟩
  · obtain ⟨-, hhm⟩ := hops_inv' P plain s2 len dist h hm hh
    have h1' : len ≠ plen := fun e => h1 e.symm
    simp only [ne_eq, h1', not_false_eq_true, if_true, popCorr_cons, ok_bind, hhm, pure_bind, hpi]
  · obtain ⟨hne, hhm⟩ := hops_inv' P plain s2 plen dist h hm hh
    simp only [ne_eq, not_true_eq_false, if_false, popCorr_cons, ok_bind, hne, not_false_eq_true, if_true, hhm,
      pure_bind, hpi]
  · simp only [ne_eq, not_true_eq_false, if_false, popCorr_cons, ok_bind, pure_bind, hpi]

theorem decTok_encTok' (P : Pred H) (plain : Array Nat) (s : PState H) (t : Token)
    (hv : ValidTok plain s.pos t) (ops : List Op) (s' : PState H)
    (he : encTok P plain s t = .ok (ops, s')) (rest : List Op) :
    decTok P plain s (ops ++ rest) = .ok (t, rest, s') := by
  unfold encTok at he
  unfold decTok
  rcases hp : P.predictTok plain s with ⟨pt, pend⟩
  rw [hp] at he
  dsimp only at he ⊢
  cases t with
  | lit b =>
    cases he
    rw [hv.2]
    cases pt <;> rfl
  | ref len dist irr =>
    obtain ⟨-, -, -, -, -, -, hm, hirr⟩ := hv
    obtain ⟨⟨ops0, plen, pdist, s2⟩, ha, hb⟩ := (bind_eq_ok ..).mp he
    cases pt with
    | lit =>
      obtain ⟨⟨l, d⟩, hr, ha⟩ := (bind_eq_ok ..).mp ha
      cases ha
      obtain ⟨ops', rfl, hdec⟩ := refTail_rt P plain [Op.mis M_LITERAL_WRONG true] l d
        ⟨s.h, none, s.pos, s.count⟩ len dist irr hm hirr ops s' hb rest
      simp only [List.cons_append, List.nil_append, popMis_cons, ok_bind, Bool.not_true, Bool.false_eq_true,
        if_false, hr, pure_bind]
      exact hdec
    | ref l d =>
      cases ha
      obtain ⟨ops', rfl, hdec⟩ := refTail_rt P plain [Op.mis M_REFERENCE_WRONG false] plen pdist
        ⟨s.h, pend, s.pos, s.count⟩ len dist irr hm hirr ops s' hb rest
      simp only [List.cons_append, List.nil_append, popMis_cons, ok_bind, Bool.false_eq_true, if_false,
        pure_bind]
      exact hdec

/-- the state after an accepted token: the token committed on the state `predict_token` left, whose pending
    reference is the predictor's (literal target, or reference target predicted as a reference) or none
    (after `repredict_reference`) -/
theorem encTok_commit (P : Pred H) (plain : Array Nat) (s : PState H) (t : Token) (ops : List Op)
    (s' : PState H) (he : encTok P plain s t = .ok (ops, s')) :
    ∃ pd, s' = commit P plain { s with pending := pd } t ∧
      (pd = none ∨ (pd = (P.predictTok plain s).2 ∧
        ((∃ b, t = .lit b) ∨ ∃ l d, (P.predictTok plain s).1 = .ref l d))) := by
  unfold encTok at he
  rcases hp : P.predictTok plain s with ⟨pt, pend⟩
  rw [hp] at he
  dsimp only at he
  cases t with
  | lit b =>
    cases he
    exact ⟨pend, rfl, .inr ⟨rfl, .inl ⟨b, rfl⟩⟩⟩
  | ref len dist irr =>
    obtain ⟨⟨ops0, plen, pdist, s2⟩, ha, hb⟩ := (bind_eq_ok ..).mp he
    obtain ⟨rfl, -⟩ := encRefTail_ok hb
    cases pt with
    | lit =>
      obtain ⟨⟨l, d⟩, -, ha⟩ := (bind_eq_ok ..).mp ha
      cases ha
      exact ⟨none, rfl, .inl rfl⟩
    | ref l d =>
      cases ha
      exact ⟨pend, rfl, .inr ⟨rfl, .inr ⟨_, _, rfl⟩⟩⟩

theorem encTok_state (P : Pred H) (plain : Array Nat) (s : PState H) (t : Token) (ops : List Op)
    (s' : PState H) (he : encTok P plain s t = .ok (ops, s')) :
    s'.pos = s.pos + tokenLen t ∧ s'.count = s.count + 1 := by
  obtain ⟨pd, rfl, -⟩ := encTok_commit P plain s t ops s' he
  exact ⟨rfl, rfl⟩

theorem encToks_cons_ok {P : Pred H} {plain : Array Nat} {s : PState H} {t : Token} {ts : List Token}
    {ops : List Op} {s' : PState H} (he : encToks P plain s (t :: ts) = .ok (ops, s')) :
    ∃ a s1 b, encTok P plain s t = .ok (a, s1) ∧ encToks P plain s1 ts = .ok (b, s') ∧ ops = a ++ b := by
  rw [encToks] at he
  obtain ⟨⟨a, s1⟩, h1, he⟩ := (bind_eq_ok ..).mp he
  obtain ⟨⟨b, s2⟩, h2, he⟩ := (bind_eq_ok ..).mp he
  cases he
  exact ⟨a, s1, b, h1, h2, rfl⟩

theorem encToks_state (P : Pred H) (plain : Array Nat) : ∀ (ts : List Token) (s : PState H) (ops : List Op)
    (s' : PState H), encToks P plain s ts = .ok (ops, s') →
    s'.pos = toksEnd s.pos ts ∧ s'.count = s.count + ts.length := by
  intro ts
  induction ts with
  | nil =>
    intro s ops s' he
    cases he
    exact ⟨rfl, rfl⟩
  | cons t ts ih =>
    intro s ops s' he
    obtain ⟨a, s1, b, h1, h2, rfl⟩ := encToks_cons_ok he
    obtain ⟨p1, c1⟩ := encTok_state P plain s t a s1 h1
    obtain ⟨p2, c2⟩ := ih s1 b s' h2
    rw [p2, c2, p1, c1, toksEnd, List.length_cons]
    exact ⟨rfl, by omega⟩

theorem validTok_len (plain : Array Nat) (pos : Nat) (t : Token) (hv : ValidTok plain pos t) :
    1 ≤ tokenLen t ∧ tokenLen t ≤ 258 ∧ pos + tokenLen t ≤ plain.size := by
  cases t with
  | lit b => simp only [tokenLen]; have := hv.1; omega
  | ref len dist irr =>
    obtain ⟨h3, h258, _, _, _, hsz, _⟩ := hv
    simp only [tokenLen]; omega

theorem decToks_encToks (P : Pred H) (plain : Array Nat) (bs : Nat) :
    ∀ (ts : List Token) (s : PState H) (ops : List Op) (s' : PState H) (fuel : Nat) (rest : List Op),
    ValidToks plain s.pos ts → encToks P plain s ts = .ok (ops, s') →
    s.count + ts.length ≤ bs → ts.length < fuel →
    (!s'.eof plain && decide (s'.count < bs)) = false →
    decToks P plain bs fuel s (ops ++ rest) = .ok (ts, rest, s') := by
  intro ts
  induction ts with
  | nil =>
    intro s ops s' fuel rest _ he _ hf hstop
    cases he
    obtain ⟨f, rfl⟩ : ∃ f, fuel = f + 1 := ⟨fuel - 1, by simp at hf; omega⟩
    rw [decToks, hstop]
    rfl
  | cons t ts ih =>
    intro s ops s' fuel rest hv he hc hf hstop
    obtain ⟨a, s1, b, h1, h2, rfl⟩ := encToks_cons_ok he
    obtain ⟨f, rfl⟩ : ∃ f, fuel = f + 1 := ⟨fuel - 1, by simp at hf; omega⟩
    have hlen := validTok_len plain s.pos t hv.1
    obtain ⟨p1, c1⟩ := encTok_state P plain s t a s1 h1
    have hcond : (!s.eof plain && decide (s.count < bs)) = true := by
      simp [PState.eof] at hc ⊢
      omega
    have hrec := ih s1 b s' f rest (by rw [p1]; exact hv.2) h2 (by simp at hc; omega) (by simp at hf; omega) hstop
    rw [decToks, hcond, if_pos rfl, List.append_assoc, decTok_encTok' P plain s t hv.1 a s1 h1 (b ++ rest), ok_bind]
    dsimp only
    rw [hrec]
    rfl

end Preflate.Proofs

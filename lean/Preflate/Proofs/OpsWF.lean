/-
Every operation `encStream` emits is well formed (`Op.WF`), for a bounded predictor (`PredBounded`,
Model/PredBounded.lean) on a valid stream whose Huffman blocks have fewer than 2^31 - 1 tokens.
This is the hypothesis `∀ o ∈ ops, o.WF` of the codec theorems (`decode_encode`, `bytes_roundtrip`).

What `encStream` emits is described by the shapes of Proofs/TotalEnc.lean (`encStream_ops`); here: the
operations of each shape are well formed when the predicted lengths and code lengths are below 2^30.

Namespace `Counter`: each hypothesis is needed. Two toy predictors, each violating one half of
`PredBounded`, and one block of 2^31 - 1 tokens make `encStream` emit a correction of 2^31.
-/
import Preflate.Model.PredBounded
import Preflate.Proofs.TotalEnc
namespace Preflate.Proofs
open Preflate Gen

variable {H : Type}

theorem getD_lt {B : Nat} (hB : 0 < B) (l : List Nat) (h : ∀ x ∈ l, x < B) (i : Nat) : l.getD i 0 < B := by
  rw [List.getD_eq_getElem?_getD]
  cases hi : l[i]? with
  | none => simpa using hB
  | some v => exact h v (List.mem_of_getElem? hi)

def AllWF (ops : List Op) : Prop := ∀ o ∈ ops, o.WF

theorem AllWF.nil : AllWF [] := fun _ h => by cases h

theorem AllWF.cons {o : Op} {ops : List Op} (h : o.WF) (hs : AllWF ops) : AllWF (o :: ops) :=
  List.forall_mem_cons.mpr ⟨h, hs⟩

theorem AllWF.append {a b : List Op} (ha : AllWF a) (hb : AllWF b) : AllWF (a ++ b) :=
  List.forall_mem_append.mpr ⟨ha, hb⟩

theorem encDiff_lt (p a : Nat) (hp : p < 2 ^ 30) (ha : a < 2 ^ 30) : encDiff p a < 2 ^ 31 := by
  unfold encDiff
  split <;> omega

theorem PredL.ofBounded {P : Pred H} (hb : PredTokBounded P) : PredL (· < PRED_BOUND) P :=
  ⟨fun plain s hp => ⟨fun l d e => by
      have := (hb.predict plain s hp).1
      rw [e] at this
      exact this, (hb.predict plain s hp).2⟩, hb.repredict⟩

theorem TokOps.wf {t : Token} {ops : List Op} (h : TokOps (· < PRED_BOUND) t ops) (ht : TokSmall t) :
    AllWF ops := by
  cases h with
  | lit b c f hc => exact AllWF.cons hc AllWF.nil
  | ref len dist irr c f plen cd h hc hl hcd hh =>
    refine AllWF.append (AllWF.cons hc (AllWF.cons
      ⟨by decide, encDiff_lt _ _ hl (Nat.lt_of_le_of_lt ht (by decide))⟩
      (AllWF.cons ⟨hcd, by omega⟩ AllWF.nil))) ?_
    split
    · exact AllWF.cons (show M_IRREGULAR258 < 7 by decide) AllWF.nil
    · exact AllWF.nil

theorem ItemOps.wf {it : RleItem} {ops : List Op} (h : ItemOps (· < PRED_BOUND) it ops)
    (hok : Tree.ItemOk it) : AllWF ops := by
  obtain ⟨pt, pd, cd, hpt, hpd, hcd, rfl⟩ := h
  have hkind : it.kind ≤ 18 ∧ it.data ≤ 138 := by
    unfold Tree.ItemOk at hok
    omega
  exact AllWF.cons ⟨by decide, encDiff_lt _ _ (by omega) (by omega)⟩
    (AllWF.cons ⟨hcd, encDiff_lt _ _ hpd (by omega)⟩ AllWF.nil)

theorem encTcLengths_wf (tc cl : List Nat) (htc : ∀ x ∈ tc, x < PRED_BOUND) (hcl : ∀ x ∈ cl, x < 8) :
    ∀ (n i : Nat), AllWF (encTcLengths tc cl n i) := by
  intro n
  induction n with
  | zero => intro i; exact AllWF.nil
  | succ n ih =>
    intro i
    rw [encTcLengths]
    refine AllWF.cons ⟨by decide, encDiff_lt _ _ (getD_lt (by decide) tc htc _) ?_⟩ (ih (i + 1))
    have := getD_lt (B := 8) (by omega) cl hcl (TREE_CODE_ORDER_TABLE.getD i 0)
    omega

theorem CountOps.wf {ctx bits v : Nat} {ops : List Op} (h : CountOps ctx bits v ops) (hctx : ctx < 7)
    (hbits : 1 ≤ bits ∧ bits ≤ 16) (hv : v < 2 ^ bits) : AllWF ops := by
  rcases h with rfl | rfl
  · exact AllWF.cons hctx AllWF.nil
  · exact AllWF.cons hctx (AllWF.cons ⟨hbits.1, hbits.2, hv⟩ AllWF.nil)

theorem TreeOps.wf {h : Header} {ops : List Op} (ho : TreeOps (· < PRED_BOUND) h ops) (hv : HeaderValid h) :
    AllWF ops := by
  obtain ⟨a, b, c, d, tc, rfl, ha, hb, hc, hd, htc⟩ := ho
  have := hv.lit_hi
  have := hv.dist_hi
  have := hv.cl_hi
  exact AllWF.append (AllWF.append (AllWF.append (AllWF.append
    (ha.wf (by decide) (by decide) (by omega)) (hb.wf (by decide) (by decide) (by omega)))
    (hc.forall_mem fun it hit _ hi => hi.wf (hv.items_kind it hit))) (hd.wf (by decide) (by decide) (by omega)))
    (encTcLengths_wf _ _ htc hv.cl_small _ _)

theorem TokBlockOps.wf {btn : Nat} {ts : List Token} {T : List Op → Prop} {ops : List Op}
    (h : TokBlockOps (· < PRED_BOUND) btn ts T ops) (hT : ∀ tree, T tree → AllWF tree) (hbtn : btn ≤ 2)
    (hts : ∀ t ∈ ts, TokSmall t) (hn : ts.length < 2 ^ 31 - 1) : AllWF ops := by
  obtain ⟨tc, toks, tree, rfl, htc, htoks, htree⟩ := h
  exact AllWF.cons ⟨by decide, encDiff_lt _ _ (by omega) (by omega)⟩ (AllWF.cons ⟨by decide, by omega⟩
    (AllWF.append (htoks.forall_mem fun t ht _ h => h.wf (hts t ht)) (hT _ htree)))

theorem BlockOps.wf {b : Block} {ops : List Op} (h : BlockOps (· < PRED_BOUND) (· < PRED_BOUND) b ops)
    (hv : BlockSmall b) (hn : (blockTokens b).length < 2 ^ 31 - 1) : AllWF ops := by
  cases b with
  | stored pad data =>
    subst h
    exact AllWF.cons ⟨by decide, by decide⟩ (AllWF.cons ⟨by decide, by decide, Nat.mod_lt _ (by decide)⟩
      (AllWF.cons ⟨by decide, Nat.lt_trans hv (by decide)⟩ AllWF.nil))
  | fixed ts => exact TokBlockOps.wf h (fun _ e => e ▸ AllWF.nil) (by decide) hv.1 hn
  | dynamic hd ts => exact TokBlockOps.wf h (fun _ ht => ht.wf hv.2.2) (by decide) hv.1 hn

theorem StreamOps.wf {blocks : List Block} {pad : Nat} {ops : List Op}
    (h : StreamOps (· < PRED_BOUND) (· < PRED_BOUND) blocks pad ops) (hv : ∀ b ∈ blocks, BlockSmall b)
    (hpad : pad < 256) (hsmall : TokenCountsSmall blocks) : AllWF ops := by
  obtain ⟨bops, hb, rfl⟩ := h
  refine AllWF.append (hb.forall_mem ?_) (AllWF.cons (by decide) (AllWF.cons ⟨by decide, by omega⟩ AllWF.nil))
  rintro b hb _ ⟨f, a, ha, rfl⟩
  refine AllWF.append ?_ (ha.wf (hv b hb) (hsmall b hb))
  cases f
  · exact AllWF.nil
  · exact AllWF.cons (by decide) AllWF.nil

theorem encStream_ops_wf_of_tok (P : Pred H) (hb : PredTokBounded P) (plain : Array Nat) (blocks : List Block)
    (hl : HasDynamic blocks → PredLenBounded P)
    (pad : Nat) (hv : StreamValid plain blocks) (hpad : pad < 256) (hsmall : TokenCountsSmall blocks)
    (ops : List Op) (he : encStream P plain blocks pad = .ok ops) : ∀ o ∈ ops, o.WF :=
  (encStream_ops P plain (.ofBounded hb) blocks
    (fun hd => ⟨fun n hn => Nat.lt_of_le_of_lt hn (by decide), (hl hd).bitlen⟩) pad hv ops he).wf
    (blocksSmall_of_valid plain blocks 0 hv.2.1) hpad hsmall

theorem encStream_ops_wf_of_tokenCounts (P : Pred H) (hb : PredBounded P) (plain : Array Nat) (blocks : List Block)
    (pad : Nat) (hv : StreamValid plain blocks) (hpad : pad < 256) (hsmall : TokenCountsSmall blocks)
    (ops : List Op) (he : encStream P plain blocks pad = .ok ops) : ∀ o ∈ ops, o.WF :=
  encStream_ops_wf_of_tok P hb.toPredTokBounded plain blocks (fun _ => hb.toPredLenBounded) pad hv hpad hsmall
    ops he

theorem toksEnd_ge : ∀ (ts : List Token) (pos : Nat), ValidToks plain pos ts →
    pos + ts.length ≤ toksEnd pos ts := by
  intro ts
  induction ts with
  | nil => intro pos _; simp [toksEnd]
  | cons t ts ih =>
    intro pos hv
    obtain ⟨hvt, hvs⟩ := hv
    have := ih _ hvs
    have hl : 1 ≤ tokenLen t := by
      cases t with
      | lit b => simp [tokenLen]
      | ref len dist irr => have := hvt.1; simp only [tokenLen]; omega
    simp only [toksEnd, List.length_cons]
    omega

theorem blockEnd_ge (plain : Array Nat) (pos : Nat) (b : Block) (hv : ValidBlock plain pos b) :
    pos + (blockTokens b).length ≤ blockEnd pos b := by
  cases b with
  | stored pad data => simp [blockTokens, blockEnd]
  | fixed ts => exact toksEnd_ge ts pos hv.1
  | dynamic h ts => exact toksEnd_ge ts pos hv.1

theorem blocksEnd_ge (plain : Array Nat) : ∀ (blocks : List Block) (pos : Nat),
    ValidBlocks plain pos blocks → ∀ b ∈ blocks, (blockTokens b).length ≤ blocksEnd pos blocks := by
  intro blocks
  induction blocks with
  | nil => intro pos _ _ h; cases h
  | cons b rest ih =>
    intro pos hv b' hb'
    rcases List.mem_cons.mp hb' with rfl | hb'
    · exact Nat.le_trans (Nat.le_trans (Nat.le_add_left ..) (blockEnd_ge plain pos b' hv.1)) (le_blocksEnd rest _)
    · exact ih _ hv.2 b' hb'

/-- on a valid stream every token produces at least one byte -/
theorem tokenCountsSmall_of_size (plain : Array Nat) (blocks : List Block) (hv : StreamValid plain blocks)
    (hsize : plain.size < 2 ^ 31 - 1) : TokenCountsSmall blocks := by
  obtain ⟨_, hvb, hend⟩ := hv
  intro b hb
  have := blocksEnd_ge plain blocks 0 hvb b hb
  omega

/-- Every operation `encStream` emits is well formed.

    `hsize` is needed: `StreamValid` only bounds a block's token count by
    2^32 - 1 (the `u32::try_from` of `predict_block`), and `Op.corr C_TOKEN_COUNT (n + 1)` is emitted
    whenever `n` differs from the predictor's block size, so a block of 2^31 - 1 or more tokens gives a
    correction ≥ 2^31: `write_exp_encoded` would compute `1 << 32` on a u32 there (`writeExp` panic).
    Such a block needs at least 2^31 - 1 bytes of plaintext; see `token_count_counterexample`. -/
theorem encStream_ops_wf (P : Pred H) (hb : PredBounded P) (plain : Array Nat) (blocks : List Block)
    (pad : Nat) (hv : StreamValid plain blocks) (hpad : pad < 256) (hsize : plain.size < 2 ^ 31 - 1)
    (ops : List Op) (he : encStream P plain blocks pad = .ok ops) : ∀ o ∈ ops, o.WF :=
  encStream_ops_wf_of_tokenCounts P hb plain blocks pad hv hpad (tokenCountsSmall_of_size plain blocks hv hsize) ops he

namespace Counter

/-- bounded bit lengths, but always predicts a reference of length 2^30 + 3 (tight: 2^30 + 2 would
    still fit against an actual length of 3) -/
def cxTok : Pred Unit where
  init := ()
  maxTokenCount := 100
  windowBytes := 32768
  predictTok _ _ := (.ref (2 ^ 30 + 3) 1, none)
  repredictTok _ _ := .error .err
  candidates _ _ := [1]
  update _ _ _ _ := ()
  calcBitLengths f _ := f.map fun _ => 0

/-- bounded tokens (only ever predicts literals), but every code length is 2^30 -/
def cxLen : Pred Unit where
  init := ()
  maxTokenCount := 100
  windowBytes := 32768
  predictTok _ _ := (.lit, none)
  repredictTok _ _ := .error .err
  candidates _ _ := []
  update _ _ _ _ := ()
  calcBitLengths f _ := f.map fun _ => 2 ^ 30

/-- a valid header whose first code length is 0 -/
def cxHeader : Header := ⟨257, 1, 19, List.replicate 19 1, [⟨0, 0⟩, ⟨18, 138⟩, ⟨18, 117⟩, ⟨0, 1⟩, ⟨0, 1⟩]⟩

/-- `some b`: the run succeeded and `b` says whether all its operations are well formed -/
def allWF (r : R (List Op)) : Option Bool :=
  match r with
  | .ok ops => some (ops.all fun o => decide o.WF)
  | .error _ => none

theorem cxTok_valid : StreamValid #[0, 0, 0, 0] [.fixed [.lit 0, .ref 3 1 false]] := by
  refine ⟨by simp, ⟨⟨⟨?_, ?_, trivial⟩, by decide⟩, trivial⟩, rfl⟩
  · simp only [ValidTok]
    decide
  · simp only [ValidTok, tokenLen]
    decide

theorem cxTok_len : PredLenBounded cxTok := by
  refine ⟨fun freq m _ x hx => ?_⟩
  simp only [cxTok, List.mem_map] at hx
  obtain ⟨_, _, rfl⟩ := hx
  decide

theorem cxHeader_valid : HeaderValid cxHeader := by
  refine ⟨by decide, by decide, by decide, by decide, by decide, by decide, by decide, by decide, ?_,
    by decide, by decide⟩
  intro i h1 h2
  simp only [cxHeader] at h1
  omega

theorem cxLen_valid : StreamValid #[] [.dynamic cxHeader []] :=
  ⟨by simp, ⟨⟨trivial, by decide, cxHeader_valid⟩, trivial⟩, rfl⟩

theorem cxLen_tok : PredTokBounded cxLen :=
  ⟨fun _ _ _ => ⟨trivial, fun _ _ h => by cases h⟩, fun _ _ _ _ _ h => by cases h⟩

/-- emits `Op.corr C_LEN 2147483648` -/
theorem cxTok_not_wf : allWF (encStream cxTok #[0,0,0,0] [.fixed [.lit 0, .ref 3 1 false]] 0) = some false := by decide
set_option maxRecDepth 8192 in
/-- emits `Op.corr C_LD_BITLEN 2147483648` -/
theorem cxLen_not_wf : allWF (encStream cxLen #[] [.dynamic cxHeader []] 0) = some false := by decide

theorem encToks_lits (P : Pred H) (plain : Array Nat) : ∀ (k : Nat) (s : PState H),
    ∃ ops s', encToks P plain s (List.replicate k (Token.lit 0)) = .ok (ops, s') := by
  intro k
  induction k with
  | zero => intro s; exact ⟨_, _, rfl⟩
  | succ k ih =>
    intro s
    obtain ⟨b, s2, h2⟩ := ih (commit P plain { s with pending := (P.predictTok plain s).2 } (.lit 0))
    exact ⟨_, s2, by
      rw [List.replicate_succ, encToks]
      unfold encTok
      dsimp only
      rw [ok_bind]
      dsimp only
      rw [h2]
      rfl⟩

theorem toksEnd_lits : ∀ (k pos : Nat), toksEnd pos (List.replicate k (Token.lit 0)) = pos + k := by
  intro k
  induction k with
  | zero => intro pos; rfl
  | succ k ih => intro pos; rw [List.replicate_succ, toksEnd, ih]; simp only [tokenLen]; omega

theorem validToks_lits (N : Nat) : ∀ (k pos : Nat), pos + k ≤ N →
    ValidToks (Array.replicate N 0) pos (List.replicate k (Token.lit 0)) := by
  intro k
  induction k with
  | zero => intro pos _; trivial
  | succ k ih =>
    intro pos h
    rw [List.replicate_succ]
    refine ⟨⟨by simp only [Array.size_replicate]; omega, ?_⟩, ih _ (by simp only [tokenLen]; omega)⟩
    rw [Array.getD_eq_getD_getElem?, Array.getElem?_replicate]
    split <;> rfl

theorem lits_valid (N : Nat) (hN : N < 2 ^ 32 - 1) :
    StreamValid (Array.replicate N 0) [.fixed (List.replicate N (Token.lit 0))] := by
  refine ⟨by simp, ⟨⟨validToks_lits N N 0 (by omega), by simpa using hN⟩, trivial⟩, ?_⟩
  simp only [blocksEnd, blockEnd, toksEnd_lits, Array.size_replicate]
  omega

theorem encStream_lits (P : Pred H) (N : Nat) (hN : N < 2 ^ 32 - 1) (hm : P.maxTokenCount < N) (pad : Nat) :
    ∃ ops, encStream P (Array.replicate N 0) [.fixed (List.replicate N (Token.lit 0))] pad = .ok ops ∧
      Op.corr C_TOKEN_COUNT (N + 1) ∈ ops := by
  obtain ⟨toks, s', ht⟩ := encToks_lits P (Array.replicate N 0) N ⟨P.init, none, 0, 0⟩
  have hpos : s'.pos = N := by
    have := (encToks_state P _ _ _ toks s' ht).1
    rwa [toksEnd_lits, Nat.zero_add] at this
  have hc : ((!([] : List Block).isEmpty && decide (N ≠ P.maxTokenCount)) || decide (N > P.maxTokenCount)) = true := by
    simp only [Bool.or_eq_true, decide_eq_true_eq]
    exact Or.inr hm
  have heof : ¬ ((!s'.eof (Array.replicate N 0)) = true) := by simp [PState.eof, hpos]
  have he : encStream P (Array.replicate N 0) [.fixed (List.replicate N (Token.lit 0))] pad =
      .ok ((if PState.eof (Array.replicate N 0) (⟨P.init, none, 0, 0⟩ : PState H) then [Op.mis M_EOF true] else []) ++
        (Op.corr C_BLOCK_TYPE (encDiff 0 2) :: Op.corr C_TOKEN_COUNT (N + 1) :: toks ++ []) ++ [] ++
        [Op.mis M_EOF false, Op.corr C_NONZERO_PADDING pad]) := by
    simp only [encStream, encBlocks, encBlock_fixed, encTokBlock, List.length_replicate,
      if_neg (show ¬ N ≥ 2 ^ 32 by omega), ht, ok_bind, pure_bind, heof, Bool.false_eq_true, if_false, hc, if_true]
  exact ⟨_, he, by simp⟩

/-- the size bound of `encStream_ops_wf` is tight: 2^31 - 1 zero bytes coded as one fixed block of
    literals form a valid stream on which EVERY predictor whose block size is below 2^31 - 1 (the
    real ones: below 2^16) succeeds and emits `Op.corr C_TOKEN_COUNT 2^31`, which is not well formed
    (`write_exp_encoded` computes `1u32 << 32` on it). -/
theorem token_count_counterexample :
    ∃ (plain : Array Nat) (blocks : List Block), StreamValid plain blocks ∧ plain.size = 2 ^ 31 - 1 ∧
      ∀ (H : Type) (P : Pred H), P.maxTokenCount < 2 ^ 31 - 1 →
        ∃ ops, encStream P plain blocks 0 = .ok ops ∧ ¬ ∀ o ∈ ops, o.WF := by
  refine ⟨Array.replicate (2 ^ 31 - 1) 0, [.fixed (List.replicate (2 ^ 31 - 1) (Token.lit 0))],
    lits_valid _ (by omega), Array.size_replicate, ?_⟩
  intro H P hm
  obtain ⟨ops, he, hmem⟩ := encStream_lits P (2 ^ 31 - 1) (by omega) hm 0
  refine ⟨ops, he, fun hall => ?_⟩
  have hw := hall _ hmem
  simp only [Op.WF] at hw
  omega

end Counter

end Preflate.Proofs

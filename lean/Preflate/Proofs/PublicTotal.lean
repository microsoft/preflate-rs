/- C05 composed for the concrete model of the public function: `decompress_deflate_stream` with the
   modelled estimator and the executable predictor never ends in a panic outcome or in exhausted fuel,
   for EVERY byte string and either verify setting. -/
import Preflate.Proofs.EstimateTotal
import Preflate.Proofs.EstimateRange
import Preflate.Proofs.TotalEnc
import Preflate.Proofs.Total
namespace Preflate.Proofs
open Preflate

/-- the stages of `decompress_deflate_stream` one after the other; each fails with `Err` only, given what
    the stages before it returned -/
theorem public_ok_or_err (verify : Bool) (d : List UInt8) :
    Post (· = .err) (fun _ => True) (decompressStream Est.estimate Chains.pred verify d) := by
  unfold decompressStream
  refine ((parseBits_post (bytesToBits d)).and_ok fun _ hp => hp).bind
    (fun _ he => he.elim id fun h => h.2.elim) fun p ⟨_, hp⟩ => ?_
  obtain ⟨hv, _⟩ := parse_valid_unbounded (bytesToBits d) p hp
  refine ((EstTotal.estimate_ok_or_err p.plain p.blocks hv (parse_plain_lt d p hp)).and_ok
    fun q hq => estimate_in_range p.plain p.blocks q hv hq).seq fun q ⟨_, hr⟩ => ?_
  have hw := writeParams_eq q (estimatorRange_wf q hr)
  rw [hw, ok_bind]
  refine ((encStream_post Tol.onlyErr (Chains.pred q) p.plain p.blocks p.eofPadding hv
    (chains_repredict_only_err q p.plain)).and_ok fun _ hb => hb).seq fun body ⟨_, hb⟩ => ?_
  cases verify
  · exact .ok _ trivial
  · rw [if_pos rfl, verifyStream_ok Chains.pred d p hp q hr _ hw body hb, ok_bind]
    exact .ok _ trivial

theorem public_outcomes (verify : Bool) (d : List UInt8) :
    (∃ r, decompressStream Est.estimate Chains.pred verify d = .ok r) ∨
      decompressStream Est.estimate Chains.pred verify d = .error .err :=
  (public_ok_or_err verify d).ok_or_error

theorem public_no_panic (verify : Bool) (d : List UInt8) (m : String) :
    decompressStream Est.estimate Chains.pred verify d ≠ .error (.panic m) ∧
    decompressStream Est.estimate Chains.pred verify d ≠ .error .fuel := by
  rcases public_outcomes verify d with ⟨r, h⟩ | h <;> rw [h] <;> constructor <;> (intro h'; cases h')

end Preflate.Proofs

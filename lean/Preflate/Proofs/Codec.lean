/-
The correction codec at the level of binary decisions (Model/Codec.lean): the decisions `encodeOps`
emits are those of the operations one by one (`evsOfOps`), and `decodeOps` reads them back.
See Props/C10.lean for the statements.
-/
import Preflate.Model.Codec
import Preflate.Proofs.Except
namespace Preflate.Proofs
open Preflate

theorem getBit_cons (c : Option CtxId) (b : Bool) (rest : List Ev) :
    getBit c (⟨c, b⟩ :: rest) = .ok (b, rest) := by simp [getBit]

theorem putUnary_length (fam row v i : Nat) : (putUnary fam row v i).length = v + 1 := by
  induction v generalizing i with
  | zero => rfl
  | succ v ih => rw [putUnary, List.length_cons, ih]

theorem getUnary_putUnary (fam row v i fuel : Nat) (rest : List Ev) (h : v < fuel) :
    getUnary fam row fuel i (putUnary fam row v i ++ rest) = .ok (i + v, rest) := by
  induction v generalizing i fuel with
  | zero =>
    cases fuel with
    | zero => omega
    | succ f => simp [getUnary, putUnary, getBit_cons, bind, Except.bind]
  | succ v ih =>
    cases fuel with
    | zero => omega
    | succ f =>
      simp only [getUnary, putUnary, List.cons_append, getBit_cons, bind, Except.bind, if_true]
      rw [ih (i + 1) f (by omega)]
      congr 2; omega

theorem testBit_split (bits n : Nat) :
    bits % 2 ^ (n + 1) = (if bits.testBit n then 2 ^ n else 0) + bits % 2 ^ n := by
  rw [Nat.mod_pow_succ, Nat.testBit_eq_decide_div_mod_eq]
  have : bits / 2 ^ n % 2 = 0 ∨ bits / 2 ^ n % 2 = 1 := by omega
  rcases this with h | h <;> simp [h] <;> omega

theorem getNBits_putNBits (fam row bits n : Nat) (rest : List Ev) :
    getNBits fam row n (putNBits fam row bits n ++ rest) = .ok (bits % 2 ^ n, rest) := by
  induction n with
  | zero => simp [getNBits, putNBits, Nat.mod_one]
  | succ n ih =>
    simp only [getNBits, putNBits, List.cons_append, getBit_cons, bind, Except.bind, ih]
    rw [testBit_split]

theorem readBypass_writeBypass (v n acc : Nat) (rest : List Ev) :
    readBypass n acc (writeBypass v n ++ rest) = .ok (acc * 2 ^ n + v % 2 ^ n, rest) := by
  induction n generalizing acc with
  | zero => simp [readBypass, writeBypass, Nat.mod_one]
  | succ n ih =>
    simp only [readBypass, writeBypass, List.cons_append, getBit_cons, bind, Except.bind, ih]
    rw [testBit_split, Nat.pow_succ, Nat.add_mul, Nat.mul_assoc, Nat.mul_comm 2]
    congr 2
    split <;> omega

theorem bitLength_bounds (v : Nat) (hv : v ≠ 0) :
    2 ^ (bitLength v - 1) ≤ v ∧ v < 2 ^ bitLength v ∧ 1 ≤ bitLength v := by
  cases v with
  | zero => exact absurd rfl hv
  | succ n => exact ⟨Nat.log2_self_le hv, Nat.lt_log2_self, Nat.succ_pos _⟩

theorem bitLength_le_of_lt (v k : Nat) (h : v < 2 ^ k) : bitLength v ≤ k := by
  cases v with
  | zero => exact Nat.zero_le _
  | succ n => exact (Nat.log2_lt (Nat.succ_ne_zero n)).2 h

theorem bitLength_lt_32 (v : Nat) (h : v < 2 ^ 31) : bitLength v < 32 :=
  Nat.lt_succ_of_le (bitLength_le_of_lt v 31 h)

/-- the three shapes `read_exp_value` tells apart by the unary part; in the third the leading one is
    put back on the low `bitLength v - 1` bits -/
theorem bitLength_cases (v : Nat) :
    v = 0 ∧ bitLength v = 0 ∨ v = 1 ∧ bitLength v = 1 ∨
    2 ≤ bitLength v ∧ v % 2 ^ bitLength v % 2 ^ (bitLength v - 1) + 2 ^ (bitLength v - 1) = v := by
  by_cases hv0 : v = 0
  · subst hv0
    exact .inl ⟨rfl, rfl⟩
  obtain ⟨hlo, hhi, h1⟩ := bitLength_bounds v hv0
  generalize bitLength v = bl at *
  obtain ⟨k, rfl⟩ : ∃ k, bl = k + 1 := ⟨bl - 1, by omega⟩
  rw [Nat.add_sub_cancel] at hlo ⊢
  rcases Nat.eq_zero_or_pos k with rfl | hk
  · exact .inr (.inl ⟨by omega, rfl⟩)
  · refine .inr (.inr ⟨by omega, ?_⟩)
    rw [Nat.mod_eq_of_lt hhi, Nat.mod_eq_sub_mod hlo, Nat.mod_eq_of_lt (by rw [Nat.pow_succ] at hhi; omega)]
    omega

/-- the decisions of `write_exp_encoded` (`writeExp` without its overflow check): for a bit length
    below 2 the second part is empty -/
def expEvs (fam row v : Nat) : List Ev :=
  putUnary fam row (bitLength v) 0 ++ putNBits (fam + 1) row (v % 2 ^ bitLength v) (bitLength v - 1)

theorem expEvs_zero : expEvs 0 0 0 = putUnary 0 0 0 0 := rfl

theorem writeExp_cases (fam row v : Nat) :
    writeExp fam row v = if bitLength v ≥ 32 then .error (.panic "write_exp_encoded: 1 << bl overflow")
      else .ok (expEvs fam row v) := by
  simp only [writeExp, expEvs]
  by_cases h : bitLength v ≥ 32
  · rw [if_pos h, if_pos h]
  · rw [if_neg h, if_neg h]
    by_cases h1 : bitLength v > 1
    · rw [if_pos h1]
    · rw [if_neg h1, show bitLength v - 1 = 0 by omega, putNBits, List.append_nil]

/-- the decisions a pending default count is flushed to -/
def flushEvs (c : Nat) : List Ev := if c = 0 then [] else expEvs 0 0 c

theorem writeDefault_zero : writeDefault 0 = .ok (putUnary 0 0 0 0) := by
  simp [writeDefault, writeExp, bitLength]

theorem flushDefault_cases (c : Nat) :
    flushDefault c = if bitLength c ≥ 32 then .error (.panic "write_exp_encoded: 1 << bl overflow")
      else .ok (flushEvs c) := by
  by_cases hc : c = 0
  · subst hc
    rfl
  · rw [flushDefault, if_pos (Nat.pos_of_ne_zero hc), writeDefault, writeExp_cases, flushEvs, if_neg hc]

theorem flushDefault_eq (c : Nat) (hc : c ≤ 1) : flushDefault c = .ok (flushEvs c) := by
  rw [flushDefault_cases, if_neg (Nat.not_le_of_lt (bitLength_lt_32 c (by omega)))]

/-- the decisions `encodeOps` emits for one operation (a default operation is flushed by the next
    call or by `finish`, as a pending count of 1) -/
def evsOf : Op → List Ev
  | .value bits v => writeBypass v bits
  | .mis _ flag => expEvs 0 0 (if flag then 0 else 1)
  | .corr ctx v => if v = 0 then expEvs 0 0 1 else expEvs 0 0 0 ++ expEvs 2 ctx v

def evsOfOps (ops : List Op) : List Ev := ops.flatMap evsOf

theorem evsOfOps_cons (o : Op) (ops : List Op) : evsOfOps (o :: ops) = evsOf o ++ evsOfOps ops :=
  List.flatMap_cons

/-- one encode call: what it emits, together with the flush of the default it leaves pending, is the
    flush of the default it found and the decisions of the operation; it fails only on a count or a
    correction of 32 bits -/
theorem encodeOp_cases (c : Nat) (op : Op) :
    (∃ a c', encodeOp c op = .ok (a, c') ∧ c' ≤ 1 ∧ a ++ flushEvs c' = flushEvs c ++ evsOf op) ∨
    (¬ (c ≤ 1 ∧ op.WF) ∧ ∀ r, encodeOp c op ≠ .ok r) := by
  by_cases hb : bitLength c ≥ 32
  · refine .inr ⟨fun h => absurd (bitLength_lt_32 c (by omega)) (Nat.not_lt_of_le hb), fun r h => ?_⟩
    cases op <;> rw [encodeOp, flushDefault_cases, if_pos hb] at h <;> cases h
  have hf : flushDefault c = .ok (flushEvs c) := by rw [flushDefault_cases, if_neg hb]
  cases op with
  | value bits v => exact .inl ⟨_, _, by rw [encodeOp, hf]; rfl, Nat.zero_le _, List.append_nil _⟩
  | mis ctx flag =>
    cases flag
    · exact .inl ⟨_, _, by rw [encodeOp, hf]; rfl, Nat.le_refl _, rfl⟩
    · exact .inl ⟨_, _, by rw [encodeOp, hf, ok_bind, if_pos rfl, writeDefault_zero]; rfl,
        Nat.zero_le _, List.append_nil _⟩
  | corr ctx v =>
    rw [encodeOp, hf, ok_bind, evsOf]
    by_cases hv : v = 0
    · rw [if_neg (not_not_intro hv), if_pos hv]
      exact .inl ⟨_, _, rfl, Nat.le_refl _, rfl⟩
    · rw [if_pos hv, if_neg hv, writeDefault_zero, ok_bind, writeExp_cases]
      by_cases hb : bitLength v ≥ 32
      · rw [if_pos hb]
        exact .inr ⟨fun h => absurd (bitLength_lt_32 v h.2.2) (Nat.not_lt_of_le hb), fun r h => by cases h⟩
      · rw [if_neg hb]
        exact .inl ⟨_, _, rfl, Nat.zero_le _,
          (List.append_nil _).trans (by rw [expEvs_zero, List.append_assoc])⟩

theorem encodeOp_inv (c : Nat) (op : Op) (a : List Ev) (c' : Nat)
    (h : encodeOp c op = .ok (a, c')) : c' ≤ 1 ∧ a ++ flushEvs c' = flushEvs c ++ evsOf op := by
  rcases encodeOp_cases c op with ⟨a0, c0, h0, h12⟩ | ⟨_, hn⟩
  · rw [h0] at h; cases h; exact h12
  · exact absurd h (hn _)

/-- a run of encode calls, then `finish`: either all decisions of the operations one by one, or some count or
    correction has 32 bits -/
theorem encodeOps_cases (ops : List Op) : ∀ c : Nat,
    encodeOps c ops = .ok (flushEvs c ++ evsOfOps ops) ∨
    (¬ (c ≤ 1 ∧ ∀ o ∈ ops, o.WF) ∧ ∀ r, encodeOps c ops ≠ .ok r) := by
  induction ops with
  | nil =>
    intro c
    rw [encodeOps, flushDefault_cases]
    by_cases hb : bitLength c ≥ 32
    · rw [if_pos hb]
      exact .inr ⟨fun h => absurd (bitLength_lt_32 c (by omega)) (Nat.not_lt_of_le hb), fun r h => by cases h⟩
    · rw [if_neg hb]
      exact .inl (congrArg _ (List.append_nil _).symm)
  | cons op ops ih =>
    intro c
    rw [encodeOps]
    rcases encodeOp_cases c op with ⟨a, c', h0, h1, h2⟩ | ⟨hn, hf⟩
    · rw [h0, ok_bind]
      dsimp only
      rcases ih c' with h | ⟨hn, hf⟩
      · rw [h, ok_bind, evsOfOps_cons, ← List.append_assoc (flushEvs c), ← h2, List.append_assoc]
        exact .inl rfl
      · refine .inr ⟨fun h => hn ⟨h1, fun o ho => h.2 o (List.mem_cons_of_mem _ ho)⟩, fun r h => ?_⟩
        obtain ⟨b, hb, -⟩ := (bind_eq_ok ..).mp h
        exact hf b hb
    · refine .inr ⟨fun h => hn ⟨h.1, h.2 op List.mem_cons_self⟩, fun r h => ?_⟩
      obtain ⟨ac, hac, -⟩ := (bind_eq_ok ..).mp h
      exact hf ac hac

theorem encodeOps_flat (ops : List Op) (hwf : ∀ o ∈ ops, o.WF) (c : Nat) (hc : c ≤ 1) :
    encodeOps c ops = .ok (flushEvs c ++ evsOfOps ops) :=
  (encodeOps_cases ops c).resolve_right fun h => h.1 ⟨hc, hwf⟩

theorem encodeOps_inv (ops : List Op) (c : Nat) (evs : List Ev) (h : encodeOps c ops = .ok evs) :
    evs = flushEvs c ++ evsOfOps ops := by
  rcases encodeOps_cases ops c with h0 | ⟨_, hn⟩
  · exact Except.ok.inj (h.symm.trans h0)
  · exact absurd h (hn _)

theorem readExp_expEvs (fam row v : Nat) (rest : List Ev) :
    readExp fam row (expEvs fam row v ++ rest) = .ok (v, rest) := by
  rw [expEvs, List.append_assoc, readExp,
    getUnary_putUnary _ _ _ _ _ _ (by rw [List.length_append, putUnary_length]; omega)]
  simp only [ok_bind, Nat.zero_add, getNBits_putNBits]
  rcases bitLength_cases v with ⟨rfl, _⟩ | ⟨rfl, _⟩ | ⟨hb, hv⟩
  · rfl
  · rfl
  · rw [if_neg (by omega), if_neg (by omega), hv]

theorem decodeOps_evsOfOps (ops : List Op) (hwf : ∀ o ∈ ops, o.WF) (rest : List Ev) :
    decodeOps 0 (ops.map Op.kind) (evsOfOps ops ++ rest) = .ok (ops, 0, rest) := by
  induction ops with
  | nil => rfl
  | cons op ops ih =>
    have hop : op.WF := hwf op List.mem_cons_self
    rw [evsOfOps_cons, List.append_assoc, List.map_cons, decodeOps]
    have ih := ih fun o ho => hwf o (List.mem_cons_of_mem _ ho)
    cases op with
    | value bits v =>
      obtain ⟨_, hb16, hv⟩ := hop
      have h16 : v < 65536 := Nat.lt_of_lt_of_le hv (Nat.pow_le_pow_right (by decide) hb16)
      simp only [Op.kind, decodeOp, evsOf, readBypass_writeBypass, ok_bind]
      simp [Nat.mod_eq_of_lt hv, Nat.mod_eq_of_lt h16, ok_bind, ih]
    | mis ctx flag =>
      simp only [Op.kind, decodeOp, evsOf, if_true, readExp_expEvs, ok_bind]
      cases flag <;> simp [ok_bind, ih]
    | corr ctx v =>
      simp only [Op.kind, decodeOp, evsOf, if_true]
      by_cases hv : v = 0
      · subst hv; simp [readExp_expEvs, ok_bind, ih]
      · simp [hv, readExp_expEvs, ok_bind, ih]

theorem decode_encode (ops : List Op) (hwf : ∀ o ∈ ops, o.WF) (rest : List Ev) :
    ∃ evs, encodeOps 0 ops = .ok evs ∧
      decodeOps 0 (ops.map Op.kind) (evs ++ rest) = .ok (ops, 0, rest) :=
  ⟨evsOfOps ops, encodeOps_flat ops hwf 0 (Nat.zero_le 1), decodeOps_evsOfOps ops hwf rest⟩

theorem default_count_le_one (c : Nat) (op : Op) (evs : List Ev) (c' : Nat)
    (h : encodeOp c op = .ok (evs, c')) : c' ≤ 1 :=
  (encodeOp_inv c op evs c' h).1

end Preflate.Proofs

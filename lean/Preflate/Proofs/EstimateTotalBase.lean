/- Bit-mask and hash facts for the no-panic proof of the parameter estimator
   (Proofs/EstimateTotal.lean has the overview and the list of panic sites). -/
import Preflate.Proofs.EstimatorFull
import Preflate.Proofs.ChainsBounded
import Preflate.Proofs.ArrayLoops
namespace Preflate.Proofs.EstTotal
open Preflate Preflate.Est

theorem and_7fff (n : Nat) : n &&& 0x7fff = n % 32768 := Nat.and_two_pow_sub_one_eq_mod n 15
theorem and_4095 (n : Nat) : n &&& 4095 = n % 4096 := Nat.and_two_pow_sub_one_eq_mod n 12

/-- a u16 mark of `estimate_add_policy` is a match length (below 2^12) with the flags `f` (bits 14
    and 15) or-ed in: masking with the length mask gives the length, with a flag mask `c` the flag -/
theorem mark_and (len f : Nat) (hl : len ≤ 258) (hf : f &&& 0x0fff = 0) :
    (len % 65536 ||| f) &&& 0x0fff = len ∧
    ∀ c, 0x3fff &&& c = 0 → (len % 65536 ||| f) &&& c = f &&& c := by
  rw [Nat.mod_eq_of_lt (by omega)]
  refine ⟨?_, fun c hc => ?_⟩
  · rw [Nat.and_or_distrib_right, hf, Nat.or_zero]
    exact Nat.and_two_pow_sub_one_of_lt_two_pow (n := 12) (by omega)
  · rw [Nat.and_or_distrib_right, ← Nat.and_two_pow_sub_one_of_lt_two_pow (x := len) (n := 14) (by omega),
      Nat.and_assoc, hc, Nat.and_zero, Nat.zero_or]

theorem random_vector_small : ∀ x ∈ Gen.RANDOM_VECTOR, x < 65536 := by decide +kernel

theorem random_vector_getD (i : Nat) : RANDOM_VECTOR_A.getD i 0 < 65536 := by
  unfold RANDOM_VECTOR_A
  simp only [Array.getD_eq_getD_getElem?, List.getElem?_toArray]
  cases h : Gen.RANDOM_VECTOR[i]? with
  | none => simp
  | some v =>
    simp only [Option.getD_some]
    exact random_vector_small v (List.mem_of_getElem? h)

/-- every hash value indexes the 64K-entry tables -/
theorem hashAtA_lt (hp : Params) (plain : Array Nat) (i : Nat) : hashAtA hp plain i < 65536 := by
  unfold hashAtA
  split
  · exact Nat.lt_of_le_of_lt Nat.and_le_left (u16_lt _)
  · exact Nat.lt_of_le_of_lt Nat.and_le_right (by decide)
  · exact u16_lt _
  · exact u16_lt _
  · exact u16_lt _
  · exact Nat.xor_lt_two_pow (n := 16) (Nat.xor_lt_two_pow (n := 16) (random_vector_getD _) (random_vector_getD _))
      (random_vector_getD _)
  · exact u16_lt _
  · decide

/-- the hash at `i` reads `numHashBytes` bytes from `i` on -/
theorem hashAtA_congr (hp : Params) (plain : Array Nat) (i j : Nat)
    (h : ∀ k, k < Chains.numHashBytes hp → Chains.byteAt plain (i + k) = Chains.byteAt plain (j + k)) :
    hashAtA hp plain i = hashAtA hp plain j := by
  have e0 : Chains.byteAt plain i = Chains.byteAt plain j := h 0 (by have := numHashBytes_cases hp; omega)
  have e1 := h 1 (by have := numHashBytes_cases hp; omega)
  have e2 := h 2 (by have := numHashBytes_cases hp; omega)
  unfold hashAtA
  rw [e0, e1, e2]
  -- only the algorithms with `numHashBytes = 4` read the fourth byte
  unfold Chains.numHashBytes at h
  split
  · rfl
  · rfl
  · next ha => rw [h 3 (by simp [ha])]
  · next ha => rw [h 3 (by simp [ha])]
  · next ha => rw [h 3 (by simp [ha])]
  · rfl
  · next ha => rw [h 3 (by simp [ha])]
  · rfl

end Preflate.Proofs.EstTotal

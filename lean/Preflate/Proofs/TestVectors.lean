/-
The fixed-Huffman stream `4b 04 00` (BFINAL, literal 'a', end of block), which the non-vacuity examples of
several property files use. It is accepted because it is what the writer emits for a well-formed block list
(completeness, Proofs/ParseWrite.lean); its truncation is rejected because a stream that is consumed
entirely has no accepted proper prefix.
-/
import Preflate.Proofs.ParseWrite
namespace Preflate.Proofs
open Preflate

theorem fixedA_wellFormed : WellFormed #[97] [.fixed [.lit 97]] 0 := by
  refine ⟨⟨by decide, ?_, by decide⟩, ?_⟩
  · simp only [ValidBlocks, ValidBlock, ValidToks, ValidTok]
    decide +kernel
  · simp only [BlocksCoded, BlockCoded, List.forall_mem_cons, TokCoded, toksEnd, tokenLen,
      List.not_mem_nil, false_imp_iff, implies_true, and_true]
    decide +kernel

theorem parse_fixed_a_then (x : List UInt8) :
    parse ([0x4b, 0x04, 0x00] ++ x) = .ok ⟨[.fixed [.lit 97]], 0, #[97], bytesToBits x⟩ := by
  obtain ⟨bytes, hb, hx⟩ := parse_write _ _ _ fixedA_wellFormed
  have hw : (writeStream [.fixed [.lit 97]] 0).toOption = some [0x4b, 0x04, 0x00] := by decide +kernel
  rw [hb] at hw
  cases hw
  exact hx x

theorem parse_fixed_a : (parse [0x4b, 0x04, 0x00]).toBool = true := by
  rw [← List.append_nil [0x4b, 0x04, 0x00], parse_fixed_a_then]
  rfl

theorem parse_fixed_a_truncated : parse [0x4b, 0x04] = .error .err :=
  parse_take_rejected (k := 2) (parse_fixed_a_then []) rfl (by decide)

end Preflate.Proofs

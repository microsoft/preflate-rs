/-
Base lemmas for `parse_valid`: the plaintext only ever grows (`Extends`), validity of tokens and
blocks is stable under growth, and what `copyRef` / `pushAll` append.
-/
import Preflate.Model.Valid
import Preflate.Proofs.Tables
namespace Preflate.Proofs
open Preflate Preflate.Gen

/-- `b` is `a` with more elements appended -/
def Extends (a b : Array Nat) : Prop :=
  a.size ≤ b.size ∧ ∀ i, i < a.size → b.getD i 0 = a.getD i 0

theorem Extends.refl (a : Array Nat) : Extends a a := ⟨Nat.le_refl _, fun _ _ => rfl⟩

theorem Extends.trans {a b c : Array Nat} (h1 : Extends a b) (h2 : Extends b c) : Extends a c :=
  ⟨Nat.le_trans h1.1 h2.1, fun i hi => by
    rw [h2.2 i (Nat.lt_of_lt_of_le hi h1.1), h1.2 i hi]⟩

theorem getD_push_lt (a : Array Nat) (x : Nat) {i : Nat} (h : i < a.size) :
    (a.push x).getD i 0 = a.getD i 0 := by
  simp [Array.getD, Array.getElem_push, h, Nat.lt_succ_of_lt h]

theorem getD_push_eq (a : Array Nat) (x : Nat) : (a.push x).getD a.size 0 = x := by
  simp [Array.getD]

theorem extends_push (a : Array Nat) (x : Nat) : Extends a (a.push x) :=
  ⟨by simp, fun _ hi => getD_push_lt a x hi⟩

theorem size_copyRef (dist : Nat) : ∀ (n : Nat) (plain : Array Nat),
    (copyRef plain dist n).size = plain.size + n
  | 0, _ => rfl
  | n + 1, plain => by
    rw [copyRef, size_copyRef dist n, Array.size_push]
    omega

theorem extends_copyRef (dist : Nat) : ∀ (n : Nat) (plain : Array Nat),
    Extends plain (copyRef plain dist n)
  | 0, _ => Extends.refl _
  | n + 1, plain => by
    rw [copyRef]
    exact (extends_push _ _).trans (extends_copyRef dist n _)

/-- the `n` bytes `copyRef` appends repeat the text `dist` back -/
theorem copyRef_period {dist : Nat} (hd1 : 1 ≤ dist) : ∀ (n : Nat) (plain : Array Nat),
    dist ≤ plain.size → ∀ i, i < n →
      (copyRef plain dist n).getD (plain.size - dist + i) 0 =
        (copyRef plain dist n).getD (plain.size + i) 0 := by
  intro n
  induction n with
  | zero => exact fun _ _ i hi => absurd hi (Nat.not_lt_zero _)
  | succ n ih =>
    intro plain hd2 i hi
    rw [copyRef]
    generalize hq : plain.push (plain.getD (plain.size - dist) 0) = q
    have hsz : q.size = plain.size + 1 := by rw [← hq, Array.size_push]
    have he := extends_copyRef dist n q
    cases i with
    | zero =>
      rw [Nat.add_zero, Nat.add_zero, he.2 (plain.size - dist) (by omega), he.2 plain.size (by omega),
        ← hq, getD_push_eq, getD_push_lt _ _ (by omega)]
    | succ j =>
      have := ih q (by omega) j (by omega)
      rw [hsz] at this
      have e1 : plain.size - dist + (j + 1) = plain.size + 1 - dist + j := by omega
      have e2 : plain.size + (j + 1) = plain.size + 1 + j := by omega
      rw [e1, e2]
      exact this

theorem matchAt_iff (plain : Array Nat) (pos len dist : Nat) :
    matchAt plain pos len dist = true ↔
      ∀ i, i < len → plain.getD (pos - dist + i) 0 = plain.getD (pos + i) 0 := by
  simp [matchAt, List.all_eq_true]

theorem matchAt_copyRef (plain : Array Nat) (dist len : Nat) (h1 : 1 ≤ dist) (h2 : dist ≤ plain.size) :
    matchAt (copyRef plain dist len) plain.size len dist = true :=
  (matchAt_iff _ _ _ _).mpr (copyRef_period h1 len plain h2)

theorem matchAt_mono {a b : Array Nat} (h : Extends a b) {pos len dist : Nat}
    (hs : pos + len ≤ a.size) (hm : matchAt a pos len dist = true) : matchAt b pos len dist = true := by
  rw [matchAt_iff] at hm ⊢
  intro i hi
  rw [h.2 _ (by omega), h.2 _ (by omega)]
  exact hm i hi

theorem size_pushAll : ∀ (data : List Nat) (plain : Array Nat),
    (pushAll plain data).size = plain.size + data.length
  | [], _ => rfl
  | _ :: r, plain => by
    rw [pushAll, size_pushAll r, Array.size_push, List.length_cons]
    omega

theorem extends_pushAll : ∀ (data : List Nat) (plain : Array Nat), Extends plain (pushAll plain data)
  | [], _ => Extends.refl _
  | _ :: r, plain => by
    rw [pushAll]
    exact (extends_push _ _).trans (extends_pushAll r _)

theorem getD_pushAll : ∀ (data : List Nat) (plain : Array Nat) (i : Nat), i < data.length →
    (pushAll plain data).getD (plain.size + i) 0 = data.getD i 0
  | x :: r, plain, 0, _ => by
    rw [pushAll, Nat.add_zero, (extends_pushAll r _).2 plain.size (by simp)]
    exact getD_push_eq plain x
  | x :: r, plain, j + 1, hi => by
    have := getD_pushAll r (plain.push x) j (Nat.lt_of_succ_lt_succ hi)
    rw [Array.size_push] at this
    rw [pushAll, ← Nat.add_assoc, Nat.add_right_comm]
    exact this

/-- what `ValidBlock` asks of a stored block's data -/
theorem stored_data_eq (plain : Array Nat) (data : List Nat) :
    data = (List.range data.length).map fun i => (pushAll plain data).getD (plain.size + i) 0 := by
  apply List.ext_getElem
  · simp
  · intro i h1 h2
    simp only [List.getElem_map, List.getElem_range]
    rw [getD_pushAll data plain i h1]
    simp [List.getD, List.getElem?_eq_getElem h1]

theorem validTok_mono {a b : Array Nat} (h : Extends a b) {pos : Nat} {t : Token}
    (hv : ValidTok a pos t) : ValidTok b pos t := by
  cases t with
  | lit x =>
    obtain ⟨h1, h2⟩ := hv
    exact ⟨Nat.lt_of_lt_of_le h1 h.1, by rw [h.2 _ h1]; exact h2⟩
  | ref len dist irr =>
    obtain ⟨h1, h2, h3, h4, h5, h6, h7, h8⟩ := hv
    exact ⟨h1, h2, h3, h4, h5, Nat.le_trans h6 h.1, matchAt_mono h h6 h7, h8⟩

theorem validToks_mono {a b : Array Nat} (h : Extends a b) : ∀ {ts : List Token} {pos : Nat},
    ValidToks a pos ts → ValidToks b pos ts := by
  intro ts
  induction ts with
  | nil => intro _ _; trivial
  | cons t ts ih =>
    intro pos hv
    exact ⟨validTok_mono h hv.1, ih hv.2⟩

theorem validBlock_mono {a b : Array Nat} (h : Extends a b) {pos : Nat} {bl : Block}
    (hv : ValidBlock a pos bl) : ValidBlock b pos bl := by
  cases bl with
  | stored pad data =>
    obtain ⟨h1, h2, h3, h4⟩ := hv
    refine ⟨h1, h2, Nat.le_trans h3 h.1, ?_⟩
    rw [h4]
    simp only [List.length_map, List.length_range, List.map_inj_left, List.mem_range]
    intro i hi
    rw [h.2 _ (by omega)]
  | fixed ts => exact ⟨validToks_mono h hv.1, hv.2⟩
  | dynamic hd ts => exact ⟨validToks_mono h hv.1, hv.2⟩

theorem validBlocks_mono {a b : Array Nat} (h : Extends a b) : ∀ {bls : List Block} {pos : Nat},
    ValidBlocks a pos bls → ValidBlocks b pos bls := by
  intro bls
  induction bls with
  | nil => intro _ _; trivial
  | cons bl bls ih =>
    intro pos hv
    exact ⟨validBlock_mono h hv.1, ih hv.2⟩

theorem toksEnd_append : ∀ (a b : List Token) (p : Nat), toksEnd p (a ++ b) = toksEnd (toksEnd p a) b
  | [], _, _ => rfl
  | _ :: a, b, _ => toksEnd_append a b _

theorem sum_map_tokenLen (ts : List Token) (pos : Nat) : pos + (ts.map tokenLen).sum = toksEnd pos ts := by
  induction ts generalizing pos with
  | nil => simp [toksEnd]
  | cons t ts ih =>
    simp only [List.map_cons, List.sum_cons, toksEnd]
    rw [← ih (pos + tokenLen t)]
    omega

theorem le_toksEnd (ts : List Token) (pos : Nat) : pos ≤ toksEnd pos ts :=
  sum_map_tokenLen ts pos ▸ Nat.le_add_right ..

theorem le_blockEnd (b : Block) (pos : Nat) : pos ≤ blockEnd pos b := by
  cases b with
  | stored pad data => exact Nat.le_add_right _ _
  | fixed ts => exact le_toksEnd ts pos
  | dynamic h ts => exact le_toksEnd ts pos

theorem le_blocksEnd : ∀ (bs : List Block) (pos : Nat), pos ≤ blocksEnd pos bs
  | [], _ => Nat.le_refl _
  | b :: bs, pos => Nat.le_trans (le_blockEnd b pos) (le_blocksEnd bs _)

end Preflate.Proofs

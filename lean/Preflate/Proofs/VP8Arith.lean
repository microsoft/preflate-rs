/-
Arithmetic groundwork for the VP8 bool-coder proof (Proofs/VP8.lean): big-endian value of a byte
string, the normalisation shift `lz8`, bounds on `split`, the 32-bit shifts and masks of `put` as
arithmetic, and the comparison lemma relating the decoder window to the final code value.
-/
import Mathlib.Tactic.Ring
import Preflate.Model.VP8
namespace Preflate.Proofs
open Preflate Preflate.VP8

/-- big-endian value of a byte string -/
def bval (l : List UInt8) : Nat := l.foldl (fun a b => a * 256 + b.toNat) 0

theorem bval_foldl (l : List UInt8) (a : Nat) :
    l.foldl (fun a b => a * 256 + b.toNat) a = a * 256 ^ l.length + bval l := by
  induction l generalizing a with
  | nil => simp [bval]
  | cons b l ih =>
    simp only [List.foldl_cons, List.length_cons, bval]
    rw [ih, ih (0 * 256 + b.toNat)]
    simp only [bval]
    ring

@[simp] theorem bval_nil : bval [] = 0 := rfl

theorem bval_cons (b : UInt8) (l : List UInt8) :
    bval (b :: l) = b.toNat * 256 ^ l.length + bval l := by
  simp only [bval, List.foldl_cons]
  rw [bval_foldl]; simp [bval]

theorem bval_append (a b : List UInt8) : bval (a ++ b) = bval a * 256 ^ b.length + bval b := by
  simp only [bval, List.foldl_append]
  rw [bval_foldl]; rfl

theorem bval_append_single (l : List UInt8) (b : UInt8) : bval (l ++ [b]) = bval l * 256 + b.toNat := by
  rw [bval_append, bval_cons]; simp

theorem bval_lt (l : List UInt8) : bval l < 256 ^ l.length := by
  induction l with
  | nil => exact Nat.one_pos
  | cons b l ih =>
    rw [bval_cons, List.length_cons, Nat.pow_succ, Nat.mul_comm _ 256]
    exact Nat.lt_of_lt_of_le (Nat.add_lt_add_left ih _)
      (Nat.succ_mul _ _ ▸ Nat.mul_le_mul_right _ b.toNat_lt)

theorem bval_take (l : List UInt8) (p : Nat) :
    bval (l.take p) = bval l / 256 ^ (l.length - p) := by
  have h := bval_append (l.take p) (l.drop p)
  rw [List.take_append_drop] at h
  have hl := bval_lt (l.drop p)
  rw [List.length_drop] at h hl
  rw [h]
  have hpos : 0 < 256 ^ (l.length - p) := Nat.pow_pos (by decide)
  rw [Nat.mul_comm, Nat.mul_add_div hpos, Nat.div_eq_of_lt hl]; simp

theorem lz8_spec (x : Nat) (h1 : 0 < x) (h2 : x < 256) :
    lz8 x ≤ 7 ∧ 128 ≤ x * 2 ^ lz8 x ∧ x * 2 ^ lz8 x ≤ 255 := by
  have hx : x ≠ 0 := by omega
  have hk : x.log2 < 8 := (Nat.log2_lt hx).2 h2
  have e7 : (2:Nat) ^ 7 = 2 ^ x.log2 * 2 ^ (7 - x.log2) := by rw [← Nat.pow_add]; congr 1; omega
  have e8 : (2:Nat) ^ 8 = 2 ^ (x.log2 + 1) * 2 ^ (7 - x.log2) := by rw [← Nat.pow_add]; congr 1; omega
  have hlo : 2 ^ 7 ≤ x * 2 ^ (7 - x.log2) := e7 ▸ Nat.mul_le_mul_right _ (Nat.log2_self_le hx)
  have hhi : x * 2 ^ (7 - x.log2) < 2 ^ 8 :=
    e8 ▸ Nat.mul_lt_mul_of_pos_right Nat.lt_log2_self (Nat.two_pow_pos _)
  unfold lz8
  simp only [Nat.mod_eq_of_lt h2, if_neg hx]
  exact ⟨Nat.sub_le _ _, hlo, Nat.le_of_lt_succ hhi⟩

theorem lz32_eq (x : Nat) (h1 : 0 < x) (h2 : x < 256) : lz32 x - 24 = lz8 x := by
  have hx : x ≠ 0 := by omega
  have hk : x.log2 < 8 := (Nat.log2_lt hx).2 (by omega)
  unfold lz8 lz32
  simp only [Nat.mod_eq_of_lt h2, if_neg hx]
  omega

theorem probability_lt (c : Nat) : probability c < 256 := by
  unfold probability
  simp only
  split
  · omega
  · exact Nat.mod_lt _ (by decide)

theorem split_bounds (r p : Nat) (hr : 128 ≤ r) (hp : p < 256) :
    0 < 1 + (((r - 1) * p) >>> 8) ∧ 1 + (((r - 1) * p) >>> 8) < r := by
  rw [Nat.shiftRight_eq_div_pow]
  have : (r - 1) * p / 2 ^ 8 < r - 1 := by
    rw [Nat.div_lt_iff_lt_mul (by decide)]
    exact Nat.mul_lt_mul_of_le_of_lt (Nat.le_refl _) hp (by omega)
  omega

theorem bypass_bounds (r : Nat) (hr : 128 ≤ r) : 0 < 1 + (r >>> 1) ∧ 1 + (r >>> 1) < r := by
  rw [Nat.shiftRight_eq_div_pow]; omega

theorem shl_u32 (x i j : Nat) (hx : x < 2 ^ j) (hij : j + i ≤ 32) : u32 (x <<< i) = x * 2 ^ i := by
  rw [Nat.shiftLeft_eq]
  refine Nat.mod_eq_of_lt (Nat.lt_of_lt_of_le (Nat.mul_lt_mul_of_pos_right hx (Nat.two_pow_pos i)) ?_)
  rw [← Nat.pow_add]
  exact Nat.pow_le_pow_right (by decide) hij

theorem and_two_pow_ne_zero (x i : Nat) : x &&& 2 ^ i ≠ 0 ↔ x.testBit i = true := by
  have h : x &&& 2 ^ i = if x.testBit i then 2 ^ i else 0 := by
    apply Nat.eq_of_testBit_eq
    intro j
    rw [Nat.testBit_and, Nat.testBit_two_pow]
    by_cases hij : i = j
    · subst hij; cases x.testBit i <;> simp
    · cases x.testBit i <;> simp [hij]
  rw [h]
  cases x.testBit i <;> simp

/-- the carry test of `send_to_output` looks at bit `k + 8` of `low` -/
theorem carry_bit (x k : Nat) (hk : k ≤ 23) (hx : x < 2 ^ (k + 9)) :
    u32 (x <<< (23 - k)) &&& 0x80000000 ≠ 0 ↔ 256 ≤ x / 2 ^ k := by
  have hq : x / 2 ^ k < 512 := by
    rw [Nat.div_lt_iff_lt_mul (Nat.two_pow_pos k), Nat.mul_comm]; exact Nat.pow_add 2 k 9 ▸ hx
  have h31 : (2:Nat) ^ 31 = 2 ^ k * 256 * 2 ^ (23 - k) := by
    rw [Nat.mul_assoc, show (256:Nat) = 2 ^ 8 from rfl, ← Nat.pow_add, ← Nat.pow_add]; congr 1; omega
  rw [shl_u32 x (23 - k) (k + 9) hx (by omega), show (0x80000000 : Nat) = 2 ^ 31 from rfl,
    and_two_pow_ne_zero, Nat.testBit_eq_decide_div_mod_eq, h31,
    Nat.mul_div_mul_right _ _ (Nat.two_pow_pos _), ← Nat.div_div_eq_div_mul, decide_eq_true_iff]
  generalize x / 2 ^ k = q at hq ⊢
  omega

/-- what stays in `low` when the byte at bit `k` has been sent: the bits below `k`, moved up -/
theorem low_rest (x k j : Nat) (hk : k ≤ 24) (hj : j ≤ 8) :
    u32 ((u32 (x <<< (24 - k)) &&& 0xffffff) <<< j) = x % 2 ^ k * 2 ^ (24 - k) * 2 ^ j := by
  have h24 : (2:Nat) ^ 24 = 2 ^ k * 2 ^ (24 - k) := by rw [← Nat.pow_add]; congr 1; omega
  have hm : u32 (x <<< (24 - k)) &&& 0xffffff = x % 2 ^ k * 2 ^ (24 - k) := by
    rw [show (0xffffff : Nat) = 2 ^ 24 - 1 from rfl, Nat.and_two_pow_sub_one_eq_mod, Nat.shiftLeft_eq,
      u32, show (4294967296 : Nat) = 2 ^ 32 from rfl, Nat.mod_mod_of_dvd _ (Nat.pow_dvd_pow 2 (by decide)),
      h24, Nat.mul_mod_mul_right]
  rw [hm]
  refine shl_u32 _ j 24 ?_ (by omega)
  rw [h24]
  exact Nat.mul_lt_mul_of_pos_right (Nat.mod_lt _ (Nat.two_pow_pos k)) (Nat.two_pow_pos _)

/-- a multiple of `2 ^ 56` is below the window (the code cut after some byte, `c` bits of it not yet
    consumed) iff it is below the whole code -/
theorem cmp_iff (X B m c : Nat) (hc : c ≤ 56) :
    X * 2 ^ 56 ≤ B / 2 ^ m * 2 ^ (56 - c) ↔ X * 2 ^ (c + m) ≤ B := by
  have h56 : (2:Nat) ^ 56 = 2 ^ c * 2 ^ (56 - c) := by rw [← Nat.pow_add]; congr 1; omega
  rw [h56, ← Nat.mul_assoc, Nat.mul_le_mul_right_iff (Nat.two_pow_pos _),
    Nat.le_div_iff_mul_le (Nat.two_pow_pos _), Nat.pow_add, Nat.mul_assoc]

theorem low_rest_shift (x k s : Nat) (hk : k ≤ 24) (h24 : 24 ≤ k + s) (h32 : k + s ≤ 32) :
    u32 ((u32 (x <<< (24 - k)) &&& 0xffffff) <<< (k + s - 24)) = x % 2 ^ k * 2 ^ s := by
  rw [low_rest x k _ hk (by omega), Nat.mul_assoc, ← Nat.pow_add, ← Nat.add_sub_assoc h24, ← Nat.add_assoc,
    Nat.sub_add_cancel hk, Nat.add_sub_cancel_left]

/-- sending a byte and shifting by `s` keeps the value: `A` is the buffer, `low` the bits below it with
    at most a carry bit at `k + 8`; the carry goes into `A`, bits `k … k + 7` become the next byte, the
    bits below `k` stay -/
theorem byte_out (A low k s : Nat) (h8 : 8 ≤ k + s) :
    ((A + low / 2 ^ k / 256) * 256 + low / 2 ^ k % 256) * 2 ^ (k + s - 8 + 8) + low % 2 ^ k * 2 ^ s =
      (A * 2 ^ (k + 8) + low) * 2 ^ s := by
  rw [Nat.sub_add_cancel h8, Nat.pow_add, Nat.pow_add 2 k 8, Nat.add_mul A, Nat.add_assoc (A * 256),
    Nat.div_add_mod']
  conv => rhs; rw [← Nat.div_add_mod low (2 ^ k)]
  ring

end Preflate.Proofs

/-
Completeness direction of C07, tokens: `decodeTokens` inverts `writeTokens` on every token list that
is a valid LZ77 expansion and is coded by a complete code. The invariant along the run is `PrefixAt`:
the plain text of which `ValidToks` speaks is the one the decoder is rebuilding.
-/
import Preflate.Proofs.ParseWriteBase
import Preflate.Proofs.Deflate
import Preflate.Proofs.ExpandsBase
namespace Preflate.Proofs
open Preflate Preflate.Gen

/-- `cur` is the first `pos` bytes of `plain`: what the decoder has rebuilt when it stands at `pos` -/
def PrefixAt (plain : Array Nat) (pos : Nat) (cur : Array Nat) : Prop :=
  cur.size = pos ∧ Extends cur plain

theorem prefixAt_empty (plain : Array Nat) : PrefixAt plain 0 #[] :=
  ⟨rfl, Nat.zero_le _, fun _ hi => absurd hi (Nat.not_lt_zero _)⟩

theorem prefixAt_full {plain cur : Array Nat} (h : PrefixAt plain plain.size cur) : cur = plain := by
  obtain ⟨h1, _, h3⟩ := h
  apply Array.ext h1
  intro i hi1 hi2
  have := h3 i hi1
  simpa [Array.getD, hi1, hi2] using this.symm

/-- `cur'` continues `cur` by `n` bytes, each of them the plain text's provided all before it are
(a copied byte is an earlier byte of `cur'` itself). -/
theorem prefixAt_grow {plain cur cur' : Array Nat} {pos : Nat} (n : Nat) (h : PrefixAt plain pos cur)
    (hs : cur'.size = pos + n) (he : Extends cur cur') (hsz : pos + n ≤ plain.size)
    (hm : ∀ i, i < n → (∀ k, k < pos + i → plain.getD k 0 = cur'.getD k 0) →
      cur'.getD (pos + i) 0 = plain.getD (pos + i) 0) : PrefixAt plain (pos + n) cur' := by
  obtain ⟨rfl, _, hc⟩ := h
  refine ⟨hs, by omega, fun k => ?_⟩
  induction k using Nat.strongRecOn with
  | _ k ih =>
    intro hk
    by_cases hlt : k < cur.size
    · rw [he.2 k hlt, hc k hlt]
    · obtain ⟨j, rfl⟩ : ∃ j, k = cur.size + j := ⟨k - cur.size, by omega⟩
      exact (hm j (by omega) fun k hk' => ih k hk' (by omega)).symm

theorem prefixAt_push {plain cur : Array Nat} {pos b : Nat} (h : PrefixAt plain pos cur)
    (hp : pos < plain.size) (hb : b = plain.getD pos 0) : PrefixAt plain (pos + 1) (cur.push b) :=
  prefixAt_grow 1 h (by rw [Array.size_push, h.1]) (extends_push _ _) hp fun i hi _ => by
    rw [Nat.lt_one_iff.mp hi, Nat.add_zero, ← h.1, getD_push_eq, hb, h.1]

theorem prefixAt_copyRef {plain cur : Array Nat} {dist pos : Nat} (hd1 : 1 ≤ dist) (n : Nat)
    (h : PrefixAt plain pos cur) (hd2 : dist ≤ pos) (hsz : pos + n ≤ plain.size)
    (hm : ∀ i, i < n → plain.getD (pos - dist + i) 0 = plain.getD (pos + i) 0) :
    PrefixAt plain (pos + n) (copyRef cur dist n) := by
  have hp := copyRef_period hd1 n cur (h.1 ▸ hd2)
  rw [h.1] at hp
  exact prefixAt_grow n h (h.1 ▸ size_copyRef dist n cur) (extends_copyRef ..) hsz fun i hi ih => by
    rw [← hp i hi, ← ih _ (by omega), hm i hi]

theorem prefixAt_pushAll {plain cur : Array Nat} {pos : Nat} (data : List Nat)
    (h : PrefixAt plain pos cur) (hsz : pos + data.length ≤ plain.size)
    (hm : ∀ i, i < data.length → data.getD i 0 = plain.getD (pos + i) 0) :
    PrefixAt plain (pos + data.length) (pushAll cur data) := by
  exact prefixAt_grow _ h (h.1 ▸ size_pushAll data cur) (extends_pushAll ..) hsz fun i hi _ => by
    rw [← h.1, getD_pushAll data cur i hi, hm i hi, h.1]

theorem writeTokens_read {ll dl : List Nat} (hl : validLengths ll = true)
    (hd : validLengths dl = true) (he : ll.getD 256 0 ≠ 0) {plain : Array Nat} :
    ∀ (ts : List Token) (pos : Nat), (∀ t ∈ ts, TokCoded ll dl t) →
    ValidToks plain pos ts → toksEnd pos ts ≤ PLAIN_LIMIT →
    ∃ w, writeTokens ll dl ts = .ok w ∧ w.length = tokensBits ll dl ts ∧
      ∀ cur, PrefixAt plain pos cur → ∀ rest fuel, w.length < fuel → ∃ cur',
        decodeTokens (codeTable ll) (codeTable dl) fuel cur (w ++ rest) = .ok (ts, cur', rest) ∧
        PrefixAt plain (toksEnd pos ts) cur' := by
  have hcl := length_codeBits
  intro ts
  induction ts with
  | nil =>
    intro pos _ _ hlim
    refine ⟨_, writeSym_ok (lt_length_of_getD_ne he) _, hcl _ _, fun cur hpre rest fuel hf => ?_⟩
    · obtain ⟨f, rfl⟩ := Nat.exists_eq_add_one_of_ne_zero (Nat.ne_zero_of_lt hf)
      exact ⟨cur, decodeTokens_eob (by rw [hpre.1]; exact hlim) (decodeSym_code hl he rest), hpre⟩
  | cons t ts ih =>
    intro pos hcoded hvalid hlim
    obtain ⟨hc0, hcs⟩ := List.forall_mem_cons.mp hcoded
    obtain ⟨hv0, hvs⟩ := hvalid
    have hpos : pos ≤ PLAIN_LIMIT :=
      Nat.le_trans (Nat.le_add_right _ _) (Nat.le_trans (le_toksEnd ts _) hlim)
    obtain ⟨w, hw, hlw, hr⟩ := ih (pos + tokenLen t) hcs hvs hlim
    cases t with
    | lit b =>
      obtain ⟨hb, hcb⟩ := hc0
      obtain ⟨hp1, hp2⟩ := hv0
      refine ⟨_, writeTokens_cons (writeSym_ok (lt_length_of_getD_ne hcb) _) hw, ?_, ?_⟩
      · simp only [List.length_append, hcl, hlw, tokensBits, tokenBits]
      · intro cur hpre rest fuel hf
        rw [List.length_append, hcl] at hf
        obtain ⟨f, rfl⟩ := Nat.exists_eq_add_one_of_ne_zero (Nat.ne_zero_of_lt hf)
        obtain ⟨cur', h1, h2⟩ := hr _ (prefixAt_push hpre hp1 hp2) rest f (by omega)
        rw [List.append_assoc]
        exact ⟨cur', decodeTokens_lit (by rw [hpre.1]; exact hpos) (decodeSym_code hl hcb _) hb h1, h2⟩
    | ref len dist irr =>
      obtain ⟨v1, v2, v3, v4, v5, v6, v7, v8⟩ := hv0
      obtain ⟨c, ex, hc, hex, rfl, rfl⟩ := len_decomp v1 v2 v8
      obtain ⟨dc, dx, hdc, hdx, rfl⟩ := dist_decomp v3 v5
      simp only [TokCoded, lenSym, NONLEN_CODE_COUNT, lenCode_of hc hex, distCode_of hdc hdx] at hc0
      obtain ⟨hcl1, hcd1⟩ := hc0
      refine ⟨_, writeTokens_cons (writeToken_ref ll dl hc hex (lt_length_of_getD_ne hcl1) hdc hdx
        (lt_length_of_getD_ne hcd1)) hw, ?_, ?_⟩
      · simp only [List.length_append, hcl, length_bitsOfNat, hlw, tokensBits, tokenBits, lenSym,
          NONLEN_CODE_COUNT, lenCode_of hc hex, distCode_of hdc hdx]
      · intro cur hpre rest fuel hf
        simp only [List.length_append, hcl, length_bitsOfNat] at hf
        obtain ⟨f, rfl⟩ := Nat.exists_eq_add_one_of_ne_zero (Nat.ne_zero_of_lt hf)
        obtain ⟨cur', h1, h2⟩ :=
          hr _ (prefixAt_copyRef v3 _ hpre v4 v6 ((matchAt_iff _ _ _ _).mp v7)) rest f (by omega)
        simp only [List.append_assoc]
        exact ⟨cur', decodeTokens_ref (by rw [hpre.1]; exact hpos) (decodeSym_code hl hcl1 _) hc
          (readBits_app hex _) (decodeSym_code hd hcd1 _) hdc (readBits_app hdx _)
          (by rw [hpre.1]; exact v4) h1, h2⟩

end Preflate.Proofs

/- Reads and writes of `Array Nat` with `[·]!` / `set!`, and invariant rules for `for` loops in the
   `Id` monad. -/
namespace Preflate.Proofs

theorem ite_both {α : Type} {P : α → Prop} {c : Prop} [Decidable c] {a b : α} (ha : P a) (hb : P b) :
    P (if c then a else b) := by
  split <;> assumption

/-- invariant rule for a `for` loop over a list in the `Id` monad (with `break` / early `return`) -/
theorem forIn_list_inv {α β : Type} (Inv : β → Prop) (f : α → β → Id (ForInStep β)) :
    ∀ (l : List α), (∀ a, a ∈ l → ∀ b, Inv b → Inv (Id.run (f a b)).value) →
    ∀ init, Inv init → Inv (Id.run (forIn l init f)) := by
  intro l
  induction l with
  | nil => intro _ init h0; simpa using h0
  | cons a l ih =>
    intro hf init h0
    have h1 := hf a (List.mem_cons_self ..) init h0
    rw [List.forIn_cons]
    cases hs : f a init with
    | done b =>
      rw [hs] at h1
      exact h1
    | yield b =>
      rw [hs] at h1
      exact ih (fun a' ha' => hf a' (List.mem_cons_of_mem _ ha')) b h1

/-- a `for i in [s : s+n]` loop in `Id` whose body never breaks: index-aware invariant -/
theorem forIn_range'_inv {β : Type} (Inv : Nat → β → Prop) (f : Nat → β → Id (ForInStep β)) :
    ∀ (n s : Nat) (init : β), Inv s init →
      (∀ i b, s ≤ i → i < s + n → Inv i b → ∃ b', f i b = pure (ForInStep.yield b') ∧ Inv (i + 1) b') →
      Inv (s + n) (Id.run (forIn (List.range' s n) init f)) := by
  intro n
  induction n with
  | zero => intro s init h0 _; simpa using h0
  | succ n ih =>
    intro s init h0 hstep
    obtain ⟨b', hb, hinv⟩ := hstep s init (Nat.le_refl _) (by omega) h0
    rw [List.range'_succ, List.forIn_cons, hb]
    have := ih (s + 1) b' hinv (fun i b h1 h2 hi => hstep i b (by omega) (by omega) hi)
    have e : s + 1 + n = s + (n + 1) := by omega
    rw [e] at this
    simpa using this

theorem get_set! (a : Array Nat) (i x v : Nat) :
    (a.set! i v)[x]! = if i = x ∧ i < a.size then v else a[x]! := by
  simp only [Array.set!_eq_setIfInBounds, getElem!_def, Array.getElem?_setIfInBounds]
  by_cases h : i = x
  · subst h
    by_cases h2 : i < a.size
    · simp [h2]
    · simp [h2]
  · simp [h]

theorem get_set!_eq (a : Array Nat) (i v : Nat) (h : i < a.size) : (a.set! i v)[i]! = v := by
  rw [get_set!]; simp [h]

theorem get_set!_ne (a : Array Nat) (i x v : Nat) (h : i ≠ x) : (a.set! i v)[x]! = a[x]! := by
  rw [get_set!]; simp [h]

theorem size_set! (a : Array Nat) (i v : Nat) : (a.set! i v).size = a.size := by simp

theorem getD_eq_get! (a : Array Nat) (i : Nat) : a.getD i 0 = a[i]! := by
  simp only [getElem!_def, Array.getD_eq_getD_getElem?]
  cases a[i]? <;> rfl

theorem get!_replicate_zero (n x : Nat) : (Array.replicate n 0)[x]! = 0 := by
  simp only [getElem!_def, Array.getElem?_replicate]
  split <;> simp_all

theorem get!_empty (x : Nat) : (#[] : Array Nat)[x]! = 0 := by
  simp

theorem get!_oob (a : Array Nat) (j : Nat) (h : ¬ j < a.size) : a[j]! = 0 := by
  simp [h]

theorem get!_map (a : Array Nat) (f : Nat → Nat) (hf : f 0 = 0) (j : Nat) :
    (a.map f)[j]! = f a[j]! := by
  simp only [Array.getElem!_eq_getD, Array.getD_eq_getD_getElem?, Array.getElem?_map]
  cases h : a[j]? with
  | none => simp [hf]
  | some v => simp

end Preflate.Proofs

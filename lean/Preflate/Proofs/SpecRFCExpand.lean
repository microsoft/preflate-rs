/-
C03 (RFC reading): the two readings of the run-length items of a dynamic header.

`expandItems items 0` is the library's reading (a 16 repeats the last EXPLICIT length),
`SpecRFC.expandRFC items` the RFC's (a 16 repeats the last element of the sequence so far).
`expand_rel`: where the RFC reading is defined, both have the same length, every RFC entry is the
library's entry or 0, and every position where they differ
  * repeats an explicit length found at an EARLIER position on which both readings agree (`src`), and
  * has a neighbour that differs too and holds the same length (`adj`; a repeat makes ≥ 2 copies).
-/
import Preflate.Model.SpecRFC
namespace Preflate.Proofs.RFC
open Preflate SpecRFC

theorem last_append_replicate {P : Nat → Prop} {acc : List Nat}
    (h : ∀ v, acc.getLast? = some v → P v) (d : Nat) {x : Nat} (hx : P x) :
    ∀ v, (acc ++ List.replicate d x).getLast? = some v → P v := by
  cases d with
  | zero => simpa using h
  | succ d =>
    intro v hv
    rw [List.replicate_succ', ← List.append_assoc, List.getLast?_concat] at hv
    exact Option.some.inj hv ▸ hx

theorem getD_rep_append (d a : Nat) (L : List Nat) (i : Nat) :
    (List.replicate d a ++ L).getD i 0 = if i < d then a else L.getD (i - d) 0 := by
  simp only [List.getD_eq_getElem?_getD]
  by_cases h : i < d
  · rw [if_pos h, List.getElem?_append_left (by simpa using h)]
    simp [h]
  · rw [if_neg h, List.getElem?_append_right (by simpa using h)]
    simp

/-- relation between the library's reading `C` and the RFC's reading `R` of a suffix of the items,
    `prev` being the last explicit length before that suffix -/
structure Rel (prev : Nat) (C R : List Nat) : Prop where
  len : R.length = C.length
  pw : ∀ i, R.getD i 0 = C.getD i 0 ∨ R.getD i 0 = 0
  src : ∀ i, R.getD i 0 ≠ C.getD i 0 →
    C.getD i 0 = prev ∨ ∃ e, e < i ∧ R.getD e 0 = C.getD e 0 ∧ C.getD e 0 = C.getD i 0
  adj : ∀ i, R.getD i 0 ≠ C.getD i 0 →
    ∃ p, (p + 1 = i ∨ i + 1 = p) ∧ R.getD p 0 ≠ C.getD p 0 ∧ C.getD p 0 = C.getD i 0

theorem Rel.nil (prev : Nat) : Rel prev [] [] :=
  ⟨rfl, fun _ => Or.inl rfl, fun _ h => absurd rfl h, fun _ h => absurd rfl h⟩

/-- a run of `d` copies in front of both readings: the same value `a = b`, or a repeat that the RFC
    reads as zeros where the library copies `prev`. The explicit length `prev'` pending behind the run
    is `prev`, or it is set by the run itself (`a = b = prev'`, the case of a single explicit length). -/
theorem Rel.block {prev prev' : Nat} {C R : List Nat} (h : Rel prev' C R) (d a b : Nat)
    (hab : a = b ∨ (b = 0 ∧ a = prev ∧ 2 ≤ d))
    (hp : prev' = prev ∨ (prev' = a ∧ a = b ∧ 1 ≤ d)) :
    Rel prev (List.replicate d a ++ C) (List.replicate d b ++ R) := by
  have sh : ∀ (x : Nat) (L : List Nat) i, (List.replicate d x ++ L).getD (i + d) 0 = L.getD i 0 :=
    fun x L i => by rw [getD_rep_append, if_neg (by omega), Nat.add_sub_cancel]
  have lo : ∀ {x : Nat} {L : List Nat} {i}, i < d → (List.replicate d x ++ L).getD i 0 = x :=
    fun hi => by rw [getD_rep_append, if_pos hi]
  refine ⟨by simp [h.len], fun i => ?_, fun i hne => ?_, fun i hne => ?_⟩
  · by_cases hi : i < d
    · rw [lo hi, lo hi]
      rcases hab with rfl | ⟨rfl, _, _⟩
      · exact .inl rfl
      · exact .inr rfl
    · obtain ⟨j, rfl⟩ : ∃ j, i = j + d := ⟨i - d, by omega⟩
      rw [sh, sh]
      exact h.pw j
  · by_cases hi : i < d
    · rw [lo hi, lo hi] at hne
      rw [lo hi]
      rcases hab with rfl | ⟨rfl, rfl, _⟩
      · exact absurd rfl hne
      · exact .inl rfl
    · obtain ⟨j, rfl⟩ : ∃ j, i = j + d := ⟨i - d, by omega⟩
      rw [sh, sh] at hne
      rw [sh]
      rcases h.src j hne with h0 | ⟨e, he, h1, h2⟩
      · rcases hp with rfl | ⟨rfl, rfl, hd⟩
        · exact .inl h0
        · exact .inr ⟨0, by omega, by rw [lo hd, lo hd], by rw [lo hd, h0]⟩
      · exact .inr ⟨e + d, by omega, by rw [sh, sh]; exact h1, by rw [sh]; exact h2⟩
  · by_cases hi : i < d
    · rw [lo hi, lo hi] at hne
      rcases hab with rfl | ⟨rfl, rfl, h2⟩
      · exact absurd rfl hne
      · by_cases hi1 : i + 1 < d
        · exact ⟨i + 1, .inr rfl, by rw [lo hi1, lo hi1]; exact hne,
            by rw [lo hi1, lo hi]⟩
        · have hi0 : i - 1 < d := by omega
          exact ⟨i - 1, .inl (by omega), by rw [lo hi0, lo hi0]; exact hne,
            by rw [lo hi0, lo hi]⟩
    · obtain ⟨j, rfl⟩ : ∃ j, i = j + d := ⟨i - d, by omega⟩
      rw [sh, sh] at hne
      obtain ⟨p, hp, h1, h2⟩ := h.adj j hne
      exact ⟨p + d, by omega, by rw [sh, sh]; exact h1, by rw [sh, sh]; exact h2⟩

/-- the invariant along the items: `acc` is the RFC sequence so far, whose last element is the pending
    explicit length `prev` or a 0; `hw`: a repeat item makes at least two copies (the format: 3–6) -/
theorem expandAcc_rel (items : List RleItem) (hw : ∀ it ∈ items, it.kind = 16 → 2 ≤ it.data) :
    ∀ (prev : Nat) (acc out : List Nat), (∀ v, acc.getLast? = some v → v = prev ∨ v = 0) →
      expandAcc items acc = some out → ∃ R, out = acc ++ R ∧ Rel prev (expandItems items prev) R := by
  induction items with
  | nil =>
    intro prev acc out _ h
    cases h
    exact ⟨[], (List.append_nil _).symm, Rel.nil prev⟩
  | cons it rest ih =>
    intro prev acc out hst h
    obtain ⟨k, d⟩ := it
    have hw' : ∀ it ∈ rest, it.kind = 16 → 2 ≤ it.data := fun it hit => hw it (List.mem_cons_of_mem _ hit)
    unfold expandAcc at h
    unfold expandItems
    by_cases hk : k = 0
    · rw [if_pos hk] at h ⊢
      obtain ⟨R', rfl, hR⟩ := ih hw' d _ out (fun v hv => by simp at hv; exact .inl hv.symm) h
      exact ⟨d :: R', List.append_assoc .., hR.block 1 d d (.inl rfl) (.inr ⟨rfl, rfl, Nat.le_refl 1⟩)⟩
    rw [if_neg hk] at h ⊢
    by_cases h16 : k = 16
    · rw [if_pos h16] at h ⊢
      cases hl : acc.getLast? with
      | none => rw [hl] at h; cases h
      | some v =>
        rw [hl] at h
        obtain ⟨R', rfl, hR⟩ := ih hw' prev _ out (last_append_replicate hst d (hst v hl)) h
        refine ⟨List.replicate d v ++ R', List.append_assoc .., hR.block d prev v ?_ (.inl rfl)⟩
        rcases hst v hl with rfl | rfl
        · exact .inl rfl
        · exact .inr ⟨rfl, rfl, hw ⟨k, d⟩ List.mem_cons_self h16⟩
    · rw [if_neg h16] at h ⊢
      obtain ⟨R', rfl, hR⟩ := ih hw' prev _ out (last_append_replicate hst d (.inr rfl)) h
      exact ⟨List.replicate d 0 ++ R', List.append_assoc .., hR.block d 0 0 (.inl rfl) (.inl rfl)⟩

theorem expand_rel (items : List RleItem) (hw : ∀ it ∈ items, it.kind = 16 → 2 ≤ it.data)
    (R : List Nat) (h : expandRFC items = some R) : Rel 0 (expandItems items 0) R := by
  obtain ⟨R', rfl, hR⟩ := expandAcc_rel items hw 0 [] R (fun _ hv => nomatch hv) h
  exact hR

end Preflate.Proofs.RFC

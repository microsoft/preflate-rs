/-
C03 (RFC reading): Kraft sums and counting.

* a length vector the library's check accepts has Kraft sum exactly 1 (`kraft_of_valid`);
* a vector that is pointwise "the same or 0" and has the same Kraft sum is the same (`eq_of_kraft_eq`);
* a symbol of length 1 that is the first of that length has the code `0` (`decodeSym_first_one`).
-/
import Preflate.Model.SpecRFC
import Preflate.Proofs.ParseWriteBase
namespace Preflate.Proofs.RFC
open Preflate SpecRFC Preflate.Proofs

/-- Σ_{i=1..b} (number of codes of length i) · 2^(15-i) -/
def kraftUpTo (l : List Nat) : Nat → Nat
  | 0 => 0
  | b + 1 => kraftUpTo l b + countEq l (b + 1) * 2 ^ (14 - b)

theorem countEq_cons (x : Nat) (l : List Nat) (i : Nat) :
    countEq (x :: l) i = countEq l i + (if x = i then 1 else 0) := by
  unfold countEq
  by_cases h : x = i <;> simp [h]

theorem kraftUpTo_cons (x : Nat) (l : List Nat) (b : Nat) :
    kraftUpTo (x :: l) b = kraftUpTo l b + (if 1 ≤ x ∧ x ≤ b then 2 ^ (15 - x) else 0) := by
  induction b with
  | zero => rw [if_neg (by omega)]; rfl
  | succ b ih =>
    rw [kraftUpTo, kraftUpTo, ih, countEq_cons, Nat.add_mul]
    by_cases hx : x = b + 1
    · subst hx
      rw [if_neg (by omega), if_pos rfl, if_pos (by omega), show 15 - (b + 1) = 14 - b by omega]
      omega
    · by_cases h1 : 1 ≤ x ∧ x ≤ b
      · rw [if_pos h1, if_neg hx, if_pos (by omega)]
        omega
      · rw [if_neg h1, if_neg hx, if_neg (by omega)]
        omega

theorem kraft_eq_upTo (l : List Nat) (h : ∀ x ∈ l, x ≤ 15) : kraft l = kraftUpTo l 15 := by
  induction l with
  | nil => rfl
  | cons x l ih =>
    have hx := h x (List.mem_cons_self)
    rw [kraft, kraftUpTo_cons, ih (fun y hy => h y (List.mem_cons_of_mem _ hy))]
    by_cases h0 : x = 0
    · rw [if_pos h0, if_neg (by omega), Nat.zero_add, Nat.add_zero]
    · rw [if_neg h0, if_pos (by omega), Nat.add_comm]

theorem width_kraft {l : List Nat} (hc : Complete l) (b : Nat) (hb : b ≤ 15) :
    width l (b + 1) * 2 ^ (15 - b) + 2 * kraftUpTo l b = 2 ^ 16 := by
  induction b with
  | zero => simp [width, cntP, kraftUpTo]
  | succ b ih =>
    have ih := ih (by omega)
    have hle := hc.le (b + 1) hb
    rw [cntP_pos l (by omega)] at hle
    obtain ⟨t, ht⟩ : ∃ t, width l (b + 1) = countEq l (b + 1) + t := ⟨_, (Nat.add_sub_cancel' hle).symm⟩
    rw [width_succ, cntP_pos l (by omega), kraftUpTo, ht, Nat.add_sub_cancel_left,
      show 15 - (b + 1) = 14 - b by omega]
    rw [ht, show 15 - b = (14 - b) + 1 by omega, Nat.pow_succ, Nat.add_mul] at ih
    rw [← Nat.mul_assoc, ← Nat.mul_assoc] at ih
    rw [Nat.mul_right_comm]
    omega

theorem all_le_of_valid {l : List Nat} (h : validLengths l = true) : ∀ x ∈ l, x ≤ 15 :=
  fun x hx => Nat.le_of_lt_succ ((complete_of_valid h).lt16 x hx)

theorem kraft_of_valid {l : List Nat} (h : validLengths l = true) : kraft l = 2 ^ 15 := by
  have hc := complete_of_valid h
  have h1 := width_kraft hc 15 (by omega)
  rw [hc.top] at h1
  rw [kraft_eq_upTo l (all_le_of_valid h)]
  omega

/-- every differing position strictly lowers the sum -/
theorem kraft_pw : ∀ (R C : List Nat), R.length = C.length →
    (∀ i, R.getD i 0 = C.getD i 0 ∨ R.getD i 0 = 0) →
    kraft R ≤ kraft C ∧ (kraft R = kraft C → R = C) := by
  intro R
  induction R with
  | nil =>
    intro C hl _
    cases C with
    | nil => exact ⟨Nat.le_refl _, fun _ => rfl⟩
    | cons c C => cases hl
  | cons r R ih =>
    intro C hl hpw
    cases C with
    | nil => cases hl
    | cons c C =>
      obtain ⟨hle, heq⟩ := ih C (Nat.succ.inj hl) fun i => hpw (i + 1)
      simp only [kraft]
      rcases hpw 0 with h0 | h0
      · cases (h0 : r = c)
        exact ⟨by omega, fun hk => by rw [heq (by omega)]⟩
      · cases (h0 : r = 0)
        rw [if_pos rfl]
        by_cases hc : c = 0
        · subst hc
          rw [if_pos rfl]
          exact ⟨by omega, fun hk => by rw [heq (by omega)]⟩
        · have : 0 < 2 ^ (15 - c) := Nat.pow_pos (by omega)
          rw [if_neg hc]
          exact ⟨by omega, fun hk => by omega⟩

theorem eq_of_kraft_eq (R C : List Nat) (hl : R.length = C.length)
    (hpw : ∀ i, R.getD i 0 = C.getD i 0 ∨ R.getD i 0 = 0) (hk : kraft R = kraft C) : R = C :=
  (kraft_pw R C hl hpw).2 hk

theorem getD_take (l : List Nat) (n i : Nat) :
    (l.take n).getD i 0 = if i < n then l.getD i 0 else 0 := by
  simp only [List.getD_eq_getElem?_getD, List.getElem?_take]
  split <;> rfl

theorem getD_drop (l : List Nat) (n i : Nat) : (l.drop n).getD i 0 = l.getD (n + i) 0 := by
  simp only [List.getD_eq_getElem?_getD, List.getElem?_drop]

theorem countEq_take_zero (l : List Nat) (v : Nat) : ∀ (j : Nat), j ≤ l.length →
    (∀ i, i < j → l.getD i 0 ≠ v) → countEq (l.take j) v = 0 := by
  intro j
  induction j with
  | zero => intros; simp [countEq]
  | succ j ih =>
    intro hj h
    rw [countEq_take_succ l v j (by omega), ih (by omega) (fun i hi => h i (by omega)),
      if_neg (h j (by omega))]

theorem countEq_take_mono (l : List Nat) (v : Nat) (a b : Nat) (hab : a ≤ b) (hb : b ≤ l.length) :
    countEq (l.take a) v ≤ countEq (l.take b) v := by
  induction b with
  | zero =>
    have : a = 0 := by omega
    subst this; exact Nat.le_refl _
  | succ b ih =>
    by_cases h : a = b + 1
    · subst h; exact Nat.le_refl _
    · have := ih (by omega) (by omega)
      rw [countEq_take_succ l v b (by omega)]
      omega

theorem countEq_ge_three (l : List Nat) (v : Nat) (x y z : Nat) (hxy : x < y) (hyz : y < z)
    (hz : z < l.length) (hx : l.getD x 0 = v) (hy : l.getD y 0 = v) (hzv : l.getD z 0 = v) :
    3 ≤ countEq l v := by
  have h1 := countEq_take_succ l v x (by omega)
  have h2 := countEq_take_succ l v y (by omega)
  have h3 := countEq_take_succ l v z (by omega)
  rw [if_pos hx] at h1
  rw [if_pos hy] at h2
  rw [if_pos hzv] at h3
  have m1 := countEq_take_mono l v (x + 1) y (by omega) (by omega)
  have m2 := countEq_take_mono l v (y + 1) z (by omega) (by omega)
  have m3 := countEq_take_mono l v (z + 1) l.length (by omega) (Nat.le_refl _)
  rw [List.take_length] at m3
  omega

theorem countEq_one_le {l : List Nat} (h : validLengths l = true) : countEq l 1 ≤ 2 := by
  have hc := complete_of_valid h
  have := hc.le 1 (by omega)
  rw [cntP_pos l (by omega)] at this
  rw [width_one] at this
  omega

theorem single_of_filter : ∀ (l : List Nat) (x : Nat), l.filter (· ≠ 0) = [x] →
    l.findIdx (· ≠ 0) < l.length ∧ l.getD (l.findIdx (· ≠ 0)) 0 = x ∧
    ∀ i, i ≠ l.findIdx (· ≠ 0) → l.getD i 0 = 0 := by
  intro l
  induction l with
  | nil => intro x h; cases h
  | cons a l ih =>
    intro x h
    rw [List.findIdx_cons]
    by_cases ha : a = 0
    · subst ha
      obtain ⟨h1, h2, h3⟩ := ih x h
      refine ⟨Nat.succ_lt_succ h1, h2, fun i hi => ?_⟩
      cases i with
      | zero => rfl
      | succ i => exact h3 i fun e => hi (congrArg (· + 1) e)
    · have hd : decide (a ≠ 0) = true := decide_eq_true ha
      rw [List.filter_cons, if_pos hd] at h
      obtain ⟨rfl, h2⟩ := List.cons.inj h
      rw [hd]
      refine ⟨Nat.succ_pos _, rfl, fun i hi => ?_⟩
      cases i with
      | zero => exact absurd rfl hi
      | succ i =>
        rw [List.getD_cons_succ, List.getD_eq_getElem?_getD]
        cases hg : l[i]? with
        | none => rfl
        | some y => simpa using List.filter_eq_nil_iff.mp h2 y (List.mem_of_getElem? hg)

theorem decodeSym_first_one {l : List Nat} (hv : validLengths l = true) {s : Nat} (hs : s < l.length)
    (h1 : l.getD s 0 = 1) (h0 : ∀ i, i < s → l.getD i 0 ≠ 1) (rest : Bits) :
    decodeSym (codeTable l) (false :: rest) = .ok (s, rest) := by
  have hcb : codeBits l s = [false] := by
    unfold codeBits codeOf
    rw [h1, countEq_take_zero l 1 s (by omega) h0]
    rfl
  have := decodeSym_code hv (s := s) (by omega) rest
  rwa [hcb] at this

end Preflate.Proofs.RFC

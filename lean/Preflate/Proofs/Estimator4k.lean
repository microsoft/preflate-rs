/- The side condition of `chain_positions_in_u16_partial` for the 4 KiB-boundary add policy is what
   the estimator itself establishes: `estimate_add_policy` answers AddFirstExcept4kBoundary only when
   no reference started in the last three positions of a 4 KiB page (`block_4k` stayed true). -/
import Preflate.Proofs.Estimator
import Preflate.Proofs.ChainBounds
namespace Preflate.Proofs
open Preflate Preflate.Est Preflate.Chains

theorem addLiteral_block4k (s : AddState) : (addLiteral s).block4k = s.block4k := rfl

theorem addReference_block4k {s s' : AddState} {len dist : Nat}
    (h : addReference s len dist = .ok s') (hb : s'.block4k = true) :
    s.block4k = true ∧ (s.offset &&& 4095) < 4093 ∧ s'.offset = s.offset + len := by
  unfold addReference at h
  split at h
  · simp at h
  · simp only [Except.ok.injEq] at h
    subst h
    simp only at hb ⊢
    by_cases h4 : (s.offset &&& 4095) ≥ 4093
    · simp [h4] at hb
    · simp only [h4, if_false] at hb
      exact ⟨hb, by omega, trivial⟩

theorem addTokens_block4k (ts : List Token) :
    ∀ (s s' : AddState), addTokens s ts = .ok s' → s'.block4k = true →
      s.block4k = true ∧ NoRefAt4k s.offset (ts.map tokenLen) ∧
      s'.offset = s.offset + (ts.map tokenLen).sum := by
  induction ts with
  | nil =>
    intro s s' h hb
    simp only [addTokens, Except.ok.injEq] at h
    subst h
    exact ⟨hb, True.intro, by simp⟩
  | cons t ts ih =>
    intro s s' h hb
    cases t with
    | lit b =>
      simp only [addTokens] at h
      obtain ⟨h1, h2, h3⟩ := ih _ _ h hb
      rw [addLiteral_block4k] at h1
      refine ⟨h1, ?_, ?_⟩
      · simp only [List.map_cons, tokenLen, NoRefAt4k]
        exact ⟨fun h => absurd h (by omega), by simpa [addLiteral] using h2⟩
      · simp only [List.map_cons, tokenLen, List.sum_cons]
        simp only [addLiteral] at h3
        omega
    | ref len dist irr =>
      simp only [addTokens, bind_eq_ok] at h
      obtain ⟨s1, h1, h2⟩ := h
      obtain ⟨g1, g2, g3⟩ := ih _ _ h2 hb
      obtain ⟨f1, f2, f3⟩ := addReference_block4k h1 g1
      refine ⟨f1, ?_, ?_⟩
      · simp only [List.map_cons, tokenLen, NoRefAt4k]
        exact ⟨fun _ => f2, by rw [← f3]; exact g2⟩
      · simp only [List.map_cons, tokenLen, List.sum_cons]
        omega

/-- the lengths the predictor commits are those of the flattened stream the estimator runs over -/
theorem streamLens_flat : ∀ bs : List Block, streamLens bs = (EstTotal.flat bs).map tokenLen
  | [] => rfl
  | .stored _ data :: bs => by
    have : (data.map Token.lit).map tokenLen = List.replicate data.length 1 := by
      rw [List.map_map, ← List.map_const']
      rfl
    rw [EstTotal.flat, List.map_append, this, ← streamLens_flat bs]
    rfl
  | .fixed ts :: bs => by
    rw [EstTotal.flat, List.map_append, ← streamLens_flat bs]
    rfl
  | .dynamic _ ts :: bs => by
    rw [EstTotal.flat, List.map_append, ← streamLens_flat bs]
    rfl

theorem addDecide_4k (s : AddState) (h : (addDecide s).1 = 3) : s.block4k = true := by
  revert h
  fun_cases addDecide s
  · next hc => exact fun _ => hc.2
  all_goals exact nofun

theorem addPolicy_4k (blocks : List Block) (lim : Nat) (h : Est.addPolicy blocks = .ok (3, lim)) :
    NoRefAt4k 0 (streamLens blocks) := by
  rw [addPolicy_eq] at h
  obtain ⟨s, h1, h2⟩ := (bind_eq_ok ..).mp h
  rw [streamLens_flat]
  exact (addTokens_block4k _ _ s h1 (addDecide_4k s (congrArg Prod.fst (Except.ok.inj h2)))).2.1

theorem vtoks_lens (plain : Array Nat) : ∀ (ts : List Token) (pos : Nat), EstTotal.VToks plain pos ts →
    ∀ l ∈ ts.map tokenLen, 1 ≤ l ∧ l ≤ 258
  | [], _, _, _, h => nomatch h
  | .lit _ :: ts, _, hv, l, h =>
    (List.mem_cons.mp h).elim (fun e => e ▸ ⟨Nat.le_refl 1, show 1 ≤ 258 by decide⟩) (vtoks_lens plain ts _ hv.2 l)
  | .ref _ _ _ :: ts, _, hv, l, h =>
    (List.mem_cons.mp h).elim (fun e => e ▸ ⟨Nat.le_trans (by decide) hv.1.len3, hv.1.len258⟩)
      (vtoks_lens plain ts _ hv.2 l)

theorem streamLens_range (plain : Array Nat) (bs : List Block) (pos : Nat) (hv : ValidBlocks plain pos bs) :
    ∀ l ∈ streamLens bs, 1 ≤ l ∧ l ≤ 258 :=
  streamLens_flat bs ▸ vtoks_lens plain _ pos (EstTotal.VToks_flat plain bs pos hv).1

/-- for the add policy the estimator itself chose, over what the parser returns, and any hash
    algorithm, chain iteration and insertion never leave the u16 range — no side condition left -/
theorem chain_positions_in_u16_estimated (plain : Array Nat) (blocks : List Block)
    (hv : StreamValid plain blocks) (p : Params) (hh : p.hashAlg ≠ 0) (pol lim : Nat)
    (he : Est.addPolicy blocks = .ok (pol, lim)) (hp : p.addPolicy = pol) :
    RunSafe p (-8) 0 (streamLens blocks) :=
  chain_positions_in_u16_partial p hh (streamLens blocks) (streamLens_range plain blocks 0 hv.2.1)
    (fun h3 => addPolicy_4k blocks lim (by rw [← h3, hp]; exact he))

end Preflate.Proofs

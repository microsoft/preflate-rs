/-
SIMULATION between two operation sources.

`SimR Q ra rb`: whenever the first computation succeeds, so does the second, with results related by
`Q`. For two sources `A`, `B` and a relation `Rel` between their states that the three pops respect
(`SrcSim`), every generic reconstruction function of Model/DecodeBytes.lean respects it: run from
related states, success on the `A` side implies success on the `B` side with the SAME value (blocks,
tokens, headers, parameters, predictor state) and related final states. Each proof follows the text of
its decoder: one combinator per `←`, `if` and result.

One-directional on purpose: the list source FAILS when asked for a kind / context / width other than
the next operation's (check-and-fail), a byte source cannot fail that way; the theorems that matter
start from a successful list-level run.

`decStreamS` is the one decoder that reads `blockFuel`, which the two sources choose independently; what
is needed about fuel (`FuelLe`: more fuel only ever changes the outcome "out of fuel") is at the end.
-/
import Preflate.Model.DecodeBytes
import Preflate.Proofs.Except
namespace Preflate.Proofs
open Preflate Gen

def SimR {X Y : Type} (Q : X → Y → Prop) (ra : R X) (rb : R Y) : Prop :=
  ∀ x, ra = .ok x → ∃ y, rb = .ok y ∧ Q x y

def PL {X A B : Type} (Q : A → B → Prop) (p : X × A) (q : X × B) : Prop := p.1 = q.1 ∧ Q p.2 q.2
def PR {Y A B : Type} (Q : A → B → Prop) (p : A × Y) (q : B × Y) : Prop := Q p.1 q.1 ∧ p.2 = q.2

namespace SimR
variable {X Y X' Y' Z A B : Type}

theorem ok {Q : X → Y → Prop} {x : X} {y : Y} (h : Q x y) : SimR Q (.ok x) (.ok y) :=
  fun _ hx => ⟨y, rfl, Except.ok.inj hx ▸ h⟩

/-- also for `throw e` and `throw e >>= f`, which reduce to `.error e` -/
theorem error {Q : X → Y → Prop} {e : Fail} {rb : R Y} : SimR Q (.error e) rb := nofun

theorem bind {P : X → Y → Prop} {Q : X' → Y' → Prop} {ra : R X} {rb : R Y}
    {fa : X → R X'} {fb : Y → R Y'}
    (h1 : SimR P ra rb) (h2 : ∀ x y, P x y → SimR Q (fa x) (fb y)) :
    SimR Q (ra >>= fa) (rb >>= fb) := by
  intro x' hx
  obtain ⟨x, hx1, hx2⟩ := (bind_eq_ok ..).mp hx
  obtain ⟨y, rfl, hp⟩ := h1 x hx1
  exact h2 x y hp x' hx2

/-- a step that does not touch the source: the same computation on both sides -/
theorem bind_same {Q : X' → Y' → Prop} (r : R Z) {fa : Z → R X'} {fb : Z → R Y'}
    (h : ∀ z, SimR Q (fa z) (fb z)) : SimR Q (r >>= fa) (r >>= fb) :=
  bind (P := Eq) (fun x hx => ⟨x, hx, rfl⟩) fun x _ hxy => hxy ▸ h x

theorem ite {Q : X → Y → Prop} {c : Prop} [Decidable c] {a a' : R X} {b b' : R Y}
    (h1 : SimR Q a b) (h2 : SimR Q a' b') : SimR Q (if c then a else a') (if c then b else b') := by
  split
  · exact h1
  · exact h2

theorem mono {P Q : X → Y → Prop} {ra : R X} {rb : R Y} (h : SimR P ra rb)
    (hpq : ∀ x y, P x y → Q x y) : SimR Q ra rb :=
  fun x hx => let ⟨y, hy, hp⟩ := h x hx; ⟨y, hy, hpq x y hp⟩

variable {Rel : A → B → Prop} {Q : X' → Y' → Prop}

theorem bind2 {ra : R (X × A)} {rb : R (X × B)} {fa : X × A → R X'} {fb : X × B → R Y'}
    (h1 : SimR (PL Rel) ra rb) (h2 : ∀ v a b, Rel a b → SimR Q (fa (v, a)) (fb (v, b))) :
    SimR Q (ra >>= fa) (rb >>= fb) :=
  bind h1 fun (v, a) (_, b) h => by
    obtain ⟨rfl, hr⟩ := h
    exact h2 v a b hr

theorem bind3 {ra : R (X × A × Z)} {rb : R (X × B × Z)} {fa : X × A × Z → R X'} {fb : X × B × Z → R Y'}
    (h1 : SimR (PL (PR Rel)) ra rb) (h2 : ∀ v a b z, Rel a b → SimR Q (fa (v, a, z)) (fb (v, b, z))) :
    SimR Q (ra >>= fa) (rb >>= fb) :=
  bind2 h1 fun v (a, z) (b, _) h => by
    obtain ⟨hr, rfl⟩ := h
    exact h2 v a b z hr

theorem bindPair {ra : R (X × Z × A)} {rb : R (X × Z × B)} {fa : X × Z × A → R X'} {fb : X × Z × B → R Y'}
    (h1 : SimR (PL (PL Rel)) ra rb) (h2 : ∀ v z a b, Rel a b → SimR Q (fa (v, z, a)) (fb (v, z, b))) :
    SimR Q (ra >>= fa) (rb >>= fb) :=
  bind2 h1 fun v (z, a) (_, b) h => by
    obtain ⟨rfl, hr⟩ := h
    exact h2 v z a b hr

end SimR

variable {H α β : Type}

structure SrcSim (A : Src α) (B : Src β) (Rel : α → β → Prop) : Prop where
  value : ∀ {bits a b}, Rel a b → SimR (PL Rel) (A.popValue bits a) (B.popValue bits b)
  mis : ∀ {ctx a b}, Rel a b → SimR (PL Rel) (A.popMis ctx a) (B.popMis ctx b)
  corr : ∀ {ctx a b}, Rel a b → SimR (PL Rel) (A.popCorr ctx a) (B.popCorr ctx b)

variable {A : Src α} {B : Src β} {Rel : α → β → Prop} (hS : SrcSim A B Rel) (P : Pred H)
  (plain : Array Nat) {a : α} {b : β}
include hS

theorem decIsEofS_sim (s : PState H) (hr : Rel a b) :
    SimR (PL Rel) (decIsEofS A plain s a) (decIsEofS B plain s b) :=
  .ite (.bind2 (hS.mis hr) fun _ _ _ hr => .ok ⟨rfl, hr⟩) (.ok ⟨rfl, hr⟩)

theorem decTcLengthsS_sim (tc : List Nat) : ∀ (n i : Nat) (acc : List Nat) {a : α} {b : β}, Rel a b →
    SimR (PL Rel) (decTcLengthsS A tc n i acc a) (decTcLengthsS B tc n i acc b)
  | 0, _, _, _, _, hr => .ok ⟨rfl, hr⟩
  | n + 1, _, _, _, _, hr =>
    .bind2 (hS.corr hr) fun _ _ _ hr => .bind_same _ fun _ => decTcLengthsS_sim tc n _ _ hr

theorem decLdTreesS_sim : ∀ (fuel : Nat) (syms : List Nat) (prev : Option Nat) {a : α} {b : β}, Rel a b →
    SimR (PL Rel) (decLdTreesS A fuel syms prev a) (decLdTreesS B fuel syms prev b)
  | 0, _, _, _, _, _ => .error
  | n + 1, _, _, _, _, hr => by
    refine .ite (.ok ⟨rfl, hr⟩) ?_
    refine .bind2 (hS.corr hr) fun c a b hr => ?_
    refine .bind_same _ fun kind => ?_
    refine .ite .error ?_
    refine .bind2 (hS.corr hr) fun c a b hr => ?_
    refine .bind_same _ fun data => ?_
    refine .ite .error ?_
    exact .bind2 (decLdTreesS_sim n _ _ hr) fun r a b hr => .ok ⟨rfl, hr⟩

theorem decTreeS_sim (freq : List Nat × List Nat) (hr : Rel a b) :
    SimR (PL Rel) (decTreeS A P freq a) (decTreeS B P freq b) := by
  refine .bind2 (hS.mis hr) fun wrong a b hr => ?_
  refine .bind2 (.ite (.bind2 (hS.value hr) fun v a b hr => .ok ⟨rfl, hr⟩) (.ok ⟨rfl, hr⟩))
    fun bl a b hr => ?_
  refine .bind2 (hS.mis hr) fun wrong a b hr => ?_
  refine .bind2 (.ite (.bind2 (hS.value hr) fun v a b hr => .ok ⟨rfl, hr⟩) (.ok ⟨rfl, hr⟩))
    fun dl a b hr => ?_
  refine .bind2 (decLdTreesS_sim hS _ _ _ hr) fun items a b hr => ?_
  refine .bind2 (hS.mis hr) fun wrong a b hr => ?_
  refine .bind2 (.ite (.bind2 (hS.value hr) fun v a b hr => .ok ⟨rfl, hr⟩) (.ok ⟨rfl, hr⟩))
    fun tcLen a b hr => ?_
  refine .ite .error ?_
  exact .bind2 (decTcLengthsS_sim hS _ _ _ _ hr) fun cl a b hr => .ok ⟨rfl, hr⟩

/-- `decTokS` first decides between a literal (left) and a reference still to be corrected (right) -/
theorem decTokS_sim (s : PState H) (hr : Rel a b) :
    SimR (PL (PR Rel)) (decTokS A P plain s a) (decTokS B P plain s b) := by
  unfold decTokS
  rcases P.predictTok plain s with ⟨pt, pend⟩
  refine .bind (P := Sum.LiftRel (PL (PR Rel)) (PL (PL (PR Rel)))) ?_ ?_
  · cases pt with
    | lit =>
      refine .bind2 (hS.mis hr) fun wrong a b hr => .ite (.ok (.inl ⟨rfl, hr, rfl⟩)) ?_
      exact .bind_same _ fun _ => .ok (.inr ⟨rfl, rfl, hr, rfl⟩)
    | ref l d =>
      exact .bind2 (hS.mis hr) fun wrong a b hr =>
        .ite (.ok (.inl ⟨rfl, hr, rfl⟩)) (.ok (.inr ⟨rfl, rfl, hr, rfl⟩))
  · rintro _ _ (@⟨⟨t, a, s1⟩, ⟨_, b, _⟩, ⟨rfl, hr, rfl⟩⟩ |
      @⟨⟨plen, pdist, a, s2⟩, ⟨_, _, b, _⟩, ⟨rfl, rfl, hr, rfl⟩⟩)
    · exact .ok ⟨rfl, hr, rfl⟩
    · refine .bind2 (hS.corr hr) fun c a b hr => .bind_same _ fun newLen => ?_
      refine .bindPair (Rel := Rel) (.ite ?_ ?_) fun len dist a b hr => ?_
      · exact .bind2 (hS.corr hr) fun hops a b hr => .bind_same _ fun d => .ok ⟨rfl, rfl, hr⟩
      · exact .bind2 (hS.corr hr) fun hops a b hr =>
          .ite (.bind_same _ fun d => .ok ⟨rfl, rfl, hr⟩) (.ok ⟨rfl, rfl, hr⟩)
      · exact .bind2 (.ite (hS.mis hr) (.ok ⟨rfl, hr⟩)) fun irr a b hr => .ok ⟨rfl, hr, rfl⟩

theorem decToksS_sim (bs : Nat) : ∀ (fuel : Nat) (s : PState H) {a : α} {b : β}, Rel a b →
    SimR (PL (PR Rel)) (decToksS A P plain bs fuel s a) (decToksS B P plain bs fuel s b)
  | 0, _, _, _, _ => .error
  | n + 1, s, _, _, hr =>
    .ite (.bind3 (decTokS_sim hS P plain s hr) fun _ _ _ s hr =>
      .bind3 (decToksS_sim bs n s hr) fun _ _ _ _ hr => .ok ⟨rfl, hr, rfl⟩) (.ok ⟨rfl, hr, rfl⟩)

theorem decBlockS_sim (s : PState H) (hr : Rel a b) :
    SimR (PL (PR Rel)) (decBlockS A P plain s a) (decBlockS B P plain s b) := by
  refine .bind2 (hS.corr hr) fun c a b hr => .bind_same _ fun bt => .ite ?_ (.ite ?_ .error)
  · refine .bind2 (hS.value hr) fun len a b hr => ?_
    refine .bind2 (hS.corr hr) fun pad a b hr => ?_
    exact .ite .error (.ok ⟨rfl, hr, rfl⟩)
  · refine .bind2 (hS.corr hr) fun tc a b hr => ?_
    refine .bind3 (decToksS_sim hS P plain _ _ _ hr) fun ts a b s hr => .ite (.ok ⟨rfl, hr, rfl⟩) ?_
    exact .bind2 (decTreeS_sim hS P _ hr) fun h a b hr => .ok ⟨rfl, hr, rfl⟩

theorem decBlocksS_sim : ∀ (fuel : Nat) (s : PState H) {a : α} {b : β}, Rel a b →
    SimR (PL (PR Rel)) (decBlocksS A P plain fuel s a) (decBlocksS B P plain fuel s b)
  | 0, _, _, _, _ => .error
  | n + 1, s, _, _, hr =>
    .bind3 (decBlockS_sim hS P plain s hr) fun _ _ _ s hr =>
      .bind2 (decIsEofS_sim hS plain s hr) fun _ _ _ hr =>
        .ite (.ok ⟨rfl, hr, rfl⟩) (.bind3 (decBlocksS_sim n s hr) fun _ _ _ _ hr => .ok ⟨rfl, hr, rfl⟩)

theorem readParamsS_sim (hr : Rel a b) : SimR (PL Rel) (readParamsS A a) (readParamsS B b) := by
  refine .bind2 (hS.value hr) fun ver a b hr => .ite .error ?_
  refine .bind2 (hS.value hr) fun strategy a b hr => ?_
  refine .bind2 (hS.value hr) fun huff a b hr => ?_
  refine .bind2 (hS.value hr) fun zc a b hr => ?_
  refine .bind2 (hS.value hr) fun wb a b hr => ?_
  refine .bind2 (hS.value hr) fun alg a b hr => ?_
  refine .bindPair (Rel := Rel) (.ite ?_ (.ok ⟨rfl, rfl, hr⟩)) fun shift mask a b hr => ?_
  · exact .bind2 (hS.value hr) fun s a b hr => .bind2 (hS.value hr) fun m a b hr => .ok ⟨rfl, rfl, hr⟩
  refine .bind2 (hS.value hr) fun mtc a b hr => ?_
  refine .bind2 (hS.value hr) fun md3 a b hr => ?_
  refine .bind2 (hS.value hr) fun vf a b hr => ?_
  refine .bind2 (hS.value hr) fun mts a b hr => ?_
  refine .bind2 (hS.value hr) fun good a b hr => ?_
  refine .bind2 (hS.value hr) fun mlazy a b hr => ?_
  refine .bind2 (hS.value hr) fun nice a b hr => ?_
  refine .bind2 (hS.value hr) fun chain a b hr => ?_
  refine .bind2 (hS.value hr) fun minLen a b hr => ?_
  refine .bind2 (hS.value hr) fun pol a b hr => ?_
  refine .bind2 (.ite (hS.value hr) (.ite (.ok ⟨rfl, hr⟩) .error)) fun limit a b hr => ?_
  exact .ite .error (.ite .error (.ite .error (.ok ⟨rfl, hr⟩)))

omit hS

/-- `r'` is `r` run with more fuel: the same outcome unless `r` ran out of fuel -/
def FuelLe {X : Type} (r r' : R X) : Prop := r ≠ .error .fuel → r' = r

theorem FuelLe.rfl {X : Type} {r : R X} : FuelLe r r := fun _ => Eq.refl r

theorem FuelLe.bind {X Y : Type} {r r' : R X} {f f' : X → R Y} (h : FuelLe r r')
    (hf : ∀ x, FuelLe (f x) (f' x)) : FuelLe (r >>= f) (r' >>= f') := by
  intro hne
  rw [h (fun he => hne (by rw [he]; rfl))]
  cases r with
  | error e => rfl
  | ok x => exact hf x hne

theorem decBlocksS_mono {S : Src α} :
    ∀ {fuel fuel' : Nat} (s : PState H) (a : α), fuel ≤ fuel' →
      FuelLe (decBlocksS S P plain fuel s a) (decBlocksS S P plain fuel' s a)
  | 0, _, _, _, _ => fun h => absurd rfl h
  | n + 1, m + 1, _, _, hle => by
    refine .bind .rfl fun (_, _, s1) => .bind .rfl fun (isEof, a2) => ?_
    cases isEof
    · exact .bind (decBlocksS_mono s1 a2 (Nat.le_of_succ_le_succ hle)) fun _ => .rfl
    · exact .rfl

theorem decBlocksS_length {S : Src α} :
    ∀ (fuel : Nat) (s : PState H) (a : α) {bs : List Block} {a' : α} {s' : PState H},
      decBlocksS S P plain fuel s a = .ok (bs, a', s') →
      decBlocksS S P plain bs.length s a = .ok (bs, a', s')
  | n + 1, s, a, bs, a', s', h => by
    unfold decBlocksS at h
    obtain ⟨⟨blk, a1, s1⟩, h1, h⟩ := (bind_eq_ok ..).mp h
    obtain ⟨⟨isEof, a2⟩, h2, h⟩ := (bind_eq_ok ..).mp h
    dsimp only at h
    cases isEof with
    | true =>
      cases h
      exact (bind_eq_ok ..).mpr ⟨_, h1, (bind_eq_ok ..).mpr ⟨_, h2, rfl⟩⟩
    | false =>
      rw [if_neg Bool.false_ne_true] at h
      obtain ⟨⟨r', a3, s3⟩, h3, h⟩ := (bind_eq_ok ..).mp h
      cases h
      exact (bind_eq_ok ..).mpr ⟨_, h1, (bind_eq_ok ..).mpr ⟨_, h2,
        (bind_eq_ok ..).mpr ⟨_, decBlocksS_length n s1 a2 h3, rfl⟩⟩⟩

include hS

/-- `decStreamS`: the two sources run the block loop under their own fuel; the `B` side needs its
    fuel to cover the blocks the `A` side reconstructed -/
theorem decStreamS_sim (hr : Rel a b) {blocks : List Block} {pad : Nat} {a' : α}
    (h : decStreamS A P plain a = .ok (blocks, pad, a'))
    (hf : ∀ b, blocks.length ≤ B.blockFuel b) :
    ∃ b', decStreamS B P plain b = .ok (blocks, pad, b') ∧ Rel a' b' := by
  unfold decStreamS at h ⊢
  obtain ⟨⟨isEof, a1⟩, h1, h⟩ := (bind_eq_ok ..).mp h
  obtain ⟨⟨_, b1⟩, e1, rfl, hr⟩ := decIsEofS_sim hS plain _ hr _ h1
  obtain ⟨⟨bs, a2⟩, h2, h⟩ := (bind_eq_ok ..).mp h
  obtain ⟨⟨p, a3⟩, h3, h⟩ := (bind_eq_ok ..).mp h
  cases h
  dsimp only at h2 h3 hr hf ⊢
  rw [e1, ok_bind]
  cases isEof with
  | true =>
    cases h2
    obtain ⟨⟨_, b3⟩, e3, rfl, hr⟩ := hS.corr hr _ h3
    exact ⟨b3, by simp only [e3, ok_bind, if_true, pure, Except.pure], hr⟩
  | false =>
    rw [if_neg Bool.false_ne_true] at h2
    obtain ⟨⟨_, a2, s2⟩, g2, h⟩ := (bind_eq_ok ..).mp h2
    cases h
    have g2 := decBlocksS_length P plain _ _ _ g2
    obtain ⟨⟨_, b2, _⟩, e2, rfl, hr, rfl⟩ := decBlocksS_sim hS P plain _ _ hr _ g2
    obtain ⟨⟨_, b3⟩, e3, rfl, hr⟩ := hS.corr hr _ h3
    dsimp only at e2 e3 hr
    rw [← decBlocksS_mono P plain _ b1 (hf b1) (by rw [e2]; nofun)] at e2
    exact ⟨b3, by simp only [e2, e3, ok_bind, Bool.false_eq_true, if_false, pure, Except.pure], hr⟩

end Preflate.Proofs

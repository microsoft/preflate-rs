/- The depth tables of a candidate (for the no-panic proof of the parameter estimator).
   `DBasic`: table sizes and the bound `chain_depth ≤ number of positions seen` (the i32 `+1`).
   `DCons`: for every inserted position `P` of the last 64K positions the verify entry holds the
   hash of `P`, and the head of that hash's chain is a later inserted position `Q` whose verify
   entry is the same hash and whose depth is at least the depth of `P` — exactly what the three
   debug assertions of `match_depth` / `get_node_depth` check. -/
import Preflate.Proofs.EstimateTotalBase
namespace Preflate.Proofs.EstTotal
open Preflate Preflate.Est

/-- what the index and overflow sites need, with no reference to hashes: table sizes, and no chain
    deeper than the `cur` positions passed so far (so that `chain_depth[head] + 1` fits an i32) -/
structure DBasic (d : Depth) (cur : Nat) : Prop where
  hs : d.head.size = 65536
  cs : d.chainDepth.size = 65536
  vs : d.verify.size = 65536
  cb : ∀ x : Nat, d.chainDepth[x]! ≤ cur

theorem DBasic.mono {d : Depth} {c c' : Nat} (h : DBasic d c) (hc : c ≤ c') : DBasic d c' :=
  ⟨h.hs, h.cs, h.vs, fun x => Nat.le_trans (h.cb x) hc⟩

def DCons (H : Nat → Nat) (I : Nat → Prop) (d : Depth) (cur : Nat) : Prop :=
  ∀ P, I P → P < cur → cur < P + 65536 →
    d.verify[P % 65536]! = H P ∧
    ∃ Q, P ≤ Q ∧ Q < cur ∧ d.head[H P]! = Q % 65536 ∧ d.verify[Q % 65536]! = H P ∧
      d.chainDepth[P % 65536]! ≤ d.chainDepth[Q % 65536]!

theorem DCons.skip {H : Nat → Nat} {I : Nat → Prop} {d : Depth} {c c' : Nat} (h : DCons H I d c)
    (hcc : c ≤ c') (hno : ∀ q, c ≤ q → q < c' → ¬ I q) : DCons H I d c' := by
  intro P hI hP hwin
  have hPc : P < c := by
    by_cases hh : P < c
    · exact hh
    · exact absurd hI (hno P (by omega) hP)
  obtain ⟨h1, Q, h2, h3, h4, h5, h6⟩ := h P hI hPc (by omega)
  exact ⟨h1, Q, h2, by omega, h4, h5, h6⟩

/-- the tables after the body of the loop of `internal_update_hash` ran at position `c`, whose hash is `h` -/
def insertAt (d : Depth) (h c : Nat) : Depth :=
  ⟨d.head.set! h (c % 65536), d.chainDepth.set! (c % 65536) (d.chainDepth[d.head[h]!]! + 1),
    d.verify.set! (c % 65536) h⟩

theorem insertAt_inv (H : Nat → Nat) (I : Nat → Prop) (hH : ∀ q, H q < 65536) (d : Depth) (c : Nat)
    (hb : DBasic d c) :
    DBasic (insertAt d (H c) c) (c + 1) ∧ (DCons H I d c → DCons H I (insertAt d (H c) c) (c + 1)) := by
  obtain ⟨hs, cs, vs, cb⟩ := hb
  refine ⟨⟨by rw [insertAt, size_set!]; exact hs, by rw [insertAt, size_set!]; exact cs,
    by rw [insertAt, size_set!]; exact vs, fun x => ?_⟩, fun hc P hI hP hwin => ?_⟩
  · rw [insertAt, get_set!]
    split
    · exact Nat.succ_le_succ (cb _)
    · exact Nat.le_succ_of_le (cb x)
  · simp only [insertAt]
    by_cases hPc : P = c
    · -- the new position heads its own chain
      subst hPc
      refine ⟨get_set!_eq _ _ _ (by omega), P, Nat.le_refl _, by omega, ?_, ?_, Nat.le_refl _⟩
      · exact get_set!_eq _ _ _ (by rw [hs]; exact hH P)
      · exact get_set!_eq _ _ _ (by omega)
    · obtain ⟨h1, Q, h2, h3, h4, h5, h6⟩ := hc P hI (by omega) (by omega)
      -- `P` and the head `Q` of its chain are within 64K below `c`, so their entries are untouched
      have hne : c % 65536 ≠ P % 65536 := by omega
      have hneQ : c % 65536 ≠ Q % 65536 := by omega
      refine ⟨by rw [get_set!_ne _ _ _ _ hne]; exact h1, ?_⟩
      by_cases hh : H P = H c
      · -- `c` joins the chain of `P` and becomes its head, one deeper than the old head
        refine ⟨c, by omega, by omega, ?_, ?_, ?_⟩
        · rw [hh]; exact get_set!_eq _ _ _ (by rw [hs]; exact hH c)
        · rw [hh]; exact get_set!_eq _ _ _ (by omega)
        · rw [get_set!_ne _ _ _ _ hne, get_set!_eq _ _ _ (by omega), ← hh, h4]
          exact Nat.le_succ_of_le h6
      · refine ⟨Q, h2, by omega, ?_, ?_, ?_⟩
        · rw [get_set!_ne _ _ _ _ (fun e => hh e.symm)]; exact h4
        · rw [get_set!_ne _ _ _ _ hneQ]; exact h5
        · rw [get_set!_ne _ _ _ _ hne, get_set!_ne _ _ _ _ hneQ]; exact h6

theorem insertLoop_spec (H : Nat → Nat) (I : Nat → Prop) (hH : ∀ q, H q < 65536) (p length : Nat)
    (hlen : p + length ≤ I32_MAX) (i pos : Nat) (head cd vf : Array Nat)
    (hpos : pos = Chains.u16 (p + i)) (hi : i ≤ length) (hb : DBasic ⟨head, cd, vf⟩ (p + i)) :
    ∃ d', insertLoop (fun j => H (p + j)) length i pos head cd vf = .ok d' ∧
      DBasic d' (p + length) ∧ (DCons H I ⟨head, cd, vf⟩ (p + i) → DCons H I d' (p + length)) := by
  fun_induction insertLoop (fun j => H (p + j)) length i pos head cd vf with
  | case1 i pos head cd vf hlt h nd hov =>
    have := hb.cb (head[H (p + i)]!)
    simp only [h, nd] at hov this
    omega
  | case2 i pos head cd vf hlt h nd _ ih =>
    subst hpos
    obtain ⟨s1, s2⟩ := insertAt_inv H I hH ⟨head, cd, vf⟩ (p + i) hb
    obtain ⟨d', e1, e2, e3⟩ := ih (u16_succ _) (by omega) s1
    exact ⟨d', e1, e2, fun hc => e3 (s2 hc)⟩
  | case3 i pos head cd vf hge =>
    obtain rfl : i = length := by omega
    exact ⟨_, rfl, hb, id⟩

theorem getHash_ok (hp : Params) (plain : Array Nat) (pos : Nat)
    (h : pos + Chains.numHashBytes hp ≤ plain.size) : getHash hp plain pos = .ok (hashAtA hp plain pos) := by
  unfold getHash; rw [if_neg (by omega)]

theorem getHash3_ok (plain : Array Nat) (pos : Nat) (h : pos + 3 ≤ plain.size) :
    getHash3 plain pos = .ok (hash3AtA plain pos) := by
  unfold getHash3; rw [if_neg (by omega)]

/-- `match_depth` passes its overflow check, its slice index and its three debug assertions when the
    referenced position was inserted and hashes like the current position -/
theorem matchDepth_ok (hp : Params) (plain : Array Nat) (I : Nat → Prop) (d : Depth) (pos dist : Nat)
    (hc : DCons (hashAtA hp plain) I d pos) (hI : I (pos - dist))
    (hd1 : 1 ≤ dist) (hd2 : dist ≤ pos) (hd3 : dist ≤ 32768)
    (hroom : pos + Chains.numHashBytes hp ≤ plain.size)
    (hh : hashAtA hp plain (pos - dist) = hashAtA hp plain pos) :
    Post (fun _ => False) (fun _ => True) (d.matchDepth hp plain pos dist) := by
  obtain ⟨h1, Q, h2, h3, h4, h5, h6⟩ := hc (pos - dist) hI (by omega) (by omega)
  rw [hh] at h1 h4 h5
  unfold Depth.matchDepth
  rw [if_neg (show ¬ dist > pos by omega)]
  simp only [getHash_ok hp plain pos hroom, ok_bind, Depth.getNodeDepth, Chains.u16, h4, h5, h1, ne_eq,
    not_true_eq_false, if_false]
  rw [if_neg (by omega)]
  exact .ok _ trivial

end Preflate.Proofs.EstTotal

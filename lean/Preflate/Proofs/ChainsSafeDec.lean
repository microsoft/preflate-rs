/-
Reconstruction side: on the corrections that the analysis of a valid stream produced, `recreate_block`
reaches none of the panic sites of the match finder / hash chains (`Model/ChainsSafeDec.lean`).
The decoder replays the encoder's tokens through the same predictor states (`decTok_encTok'`,
`decToks_encToks`, `decBlock_encBlock`, `decTail_encBlocks`); the invariant `RunInv` of
`Proofs/ChainsSafe.lean` is carried along the replay.
-/
import Preflate.Model.ChainsSafeDec
import Preflate.Proofs.ChainsSafe
import Preflate.Proofs.Predict
namespace Preflate.Proofs
open Preflate Preflate.Chains

/-- the tail of one reference token: the corrections `encRefTail` wrote make `decRefTailChk` pass —
    `hop_match` is called with the ORIGINAL length (≥ 3) -/
theorem decRefTailChk_ok (p : Params) (plain : Array Nat) (ops0 : List Op) (plen pdist : Nat)
    (s2 : PState Chain) (len dist : Nat) (irr : Bool) (hm : matchAt plain s2.pos len dist = true)
    (ops : List Op) (s' : PState Chain)
    (he : encRefTail (pred p) plain ops0 plen pdist s2 len dist irr = .ok (ops, s')) (rest : List Op)
    (h3 : 3 ≤ len)
    (hhop : (∃ h, calcHops (pred p) plain s2 len dist = .ok h) → ∀ hops, hopMatchChk p plain s2 len hops = .ok ())
    (hcommit : commitChk p plain s2 len = .ok ()) :
    ∃ ops', ops = ops0 ++ ops' ∧ decRefTailChk p plain plen (ops' ++ rest) s2 = .ok () := by
  obtain ⟨-, cd, h, rfl, hc⟩ := encRefTail_ok he
  refine ⟨_, rfl, ?_⟩
  unfold decRefTailChk
  simp only [List.cons_append, List.nil_append, popCorr_cons, decDiff_encDiff]
  -- the decoder takes the branch the encoder took, and calls `hop_match` with the original length
  rcases hc with ⟨h1, rfl, hh⟩ | ⟨rfl, h2, rfl, hh⟩ | ⟨rfl, rfl, rfl, rfl⟩
  · obtain ⟨-, hhm⟩ := hops_inv' (pred p) plain s2 len dist h hm hh
    simp only [if_pos (Ne.symm h1), popCorr_cons]
    rw [chk_bind (hhop ⟨h, hh⟩ h) rfl, hhm]
    exact need_bind h3 hcommit
  · obtain ⟨hne, hhm⟩ := hops_inv' (pred p) plain s2 plen dist h hm hh
    simp only [ne_eq, not_true_eq_false, if_false, popCorr_cons, if_pos hne]
    rw [chk_bind (hhop ⟨h, hh⟩ h) rfl, hhm]
    exact need_bind h3 hcommit
  · simp only [ne_eq, not_true_eq_false, if_false, popCorr_cons]
    exact hcommit

/-- One iteration of the token loop of `recreate_block`, on the corrections `encTok` wrote for a valid token
    followed by anything. What the iteration returns is `decTok_encTok'`. -/
theorem decTokChk_ok (p : Params) (plain : Array Nat) (s : PState Chain) (t : Token)
    (hps : ParamsSafe p) (hlz : LazyDepthOK p) (hsz : plain.size < 2147483648)
    (hv : ValidTok plain s.pos t) (hinv : RunInv p plain s)
    (ops : List Op) (s' : PState Chain) (he : encTok (pred p) plain s t = .ok (ops, s')) (rest : List Op) :
    decTokChk p plain s (ops ++ rest) = .ok () := by
  obtain ⟨hpos, hpred, hcommit⟩ := hinv.tokStep hps hlz hsz hv
  have hpf := (predictTok_facts p plain s hinv.pend).2
  unfold encTok at he
  unfold decTokChk
  rw [chk_bind hpred rfl]
  rcases hp : predictTok p plain s with ⟨pt, pend⟩
  rw [show (pred p).predictTok plain s = (pt, pend) from hp] at he
  rw [hp] at hpf
  dsimp only at hpf he ⊢
  cases t with
  | lit b =>
    cases he
    cases pt with
    | lit => exact hcommit pend
    | ref l d => exact chk_bind (need_ok hpos) (hcommit pend)
  | ref len dist irr =>
    obtain ⟨h3, -, -, -, -, -, hm, -⟩ := hv
    have hhops : ∀ pd : Option (Nat × Nat), p.hashAlg ≠ 0 → numHashBytes p ≤ plain.size - s.pos →
        ∀ hops, hopMatchChk p plain { s with pending := pd } len hops = .ok () := fun pd h0 hn hops =>
      hopMatchChk_ok (s := { s with pending := pd }) hops hps h0 hsz hn h3 (hinv.iterSafe h0) hinv.tabs
    obtain ⟨⟨ops0, plen, pdist, s2⟩, ha, hb⟩ := (bind_eq_ok ..).mp he
    cases pt with
    | lit =>
      obtain ⟨⟨l, d⟩, hr, ha⟩ := (bind_eq_ok ..).mp ha
      cases ha
      have hr' : repredictTok p plain { s with pending := pend } = .ok (l, d) := hr
      have hf := repredictTok_facts hr'
      obtain ⟨ops', rfl, hdec⟩ := decRefTailChk_ok p plain [Op.mis M_LITERAL_WRONG true] l d
        ⟨s.h, none, s.pos, s.count⟩ len dist irr hm ops s' hb rest h3
        (fun _ => hhops none hf.1 hf.2) (hcommit none)
      simp only [List.cons_append, List.nil_append, popMis_cons, Bool.not_true, Bool.false_eq_true, if_false]
      rw [chk_bind (repredictTokChk_ok { s with pending := pend } hps hsz (Nat.le_of_lt hpos)
        hinv.iterSafe hinv.tabs) rfl, hr']
      exact hdec
    | ref l d =>
      cases ha
      have hf := hpf plen pdist rfl
      obtain ⟨ops', rfl, hdec⟩ := decRefTailChk_ok p plain [Op.mis M_REFERENCE_WRONG false] plen pdist
        ⟨s.h, pend, s.pos, s.count⟩ len dist irr hm ops s' hb rest h3
        (fun _ => hhops pend hf.1 hf.2.1) (hcommit pend)
      simp only [List.cons_append, List.nil_append, popMis_cons, Bool.false_eq_true, if_false]
      exact hdec

/-- The token loop of `recreate_block` on the corrections of `ts`. `hstop`: with the block size `bs` the
    decoder read, the loop condition fails in the state the encoder ended in, so that the loop ends with
    `ts` (`decToksChk_block` derives this from the token-count correction). -/
theorem decToksChk_ok (p : Params) (plain : Array Nat)
    (hps : ParamsSafe p) (hlz : LazyDepthOK p) (hsz : plain.size < 2147483648) (bs : Nat) :
    ∀ (ts : List Token) (s : PState Chain) (ops : List Op) (s' : PState Chain) (fuel : Nat) (rest : List Op),
    ValidToks plain s.pos ts → s.pos ≤ plain.size → encToks (pred p) plain s ts = .ok (ops, s') →
    s.count + ts.length ≤ bs → ts.length < fuel →
    (!s'.eof plain && decide (s'.count < bs)) = false →
    RunInv p plain s → (p.addPolicy = 3 → NoRefAt4k s.pos (ts.map tokenLen)) →
    decToksChk p plain bs fuel s (ops ++ rest) = .ok () := by
  intro ts
  induction ts with
  | nil =>
    intro s ops s' fuel rest _ hpos he _ hf hstop _ _
    cases he
    obtain ⟨f, rfl⟩ : ∃ f, fuel = f + 1 := ⟨fuel - 1, by simp at hf; omega⟩
    rw [decToksChk, remainingChk, need_bind hpos rfl, hstop]
    rfl
  | cons t ts ih =>
    intro s ops s' fuel rest hv hpos he hc hf hstop hinv h4k
    obtain ⟨a, s1, b, h1, h2, rfl⟩ := encToks_cons_ok he
    obtain ⟨f, rfl⟩ : ∃ f, fuel = f + 1 := ⟨fuel - 1, by simp at hf; omega⟩
    obtain ⟨hvt, hvts⟩ := hv
    have hlen := validTok_len plain s.pos t hvt
    obtain ⟨hinv1, p1⟩ := encTok_runInv p plain s t hvt hinv (fun h3 => (h4k h3).1) a s1 h1
    obtain ⟨_, c1⟩ := encTok_state (pred p) plain s t a s1 h1
    have hcond : (!s.eof plain && decide (s.count < bs)) = true := by
      simp [PState.eof] at hc ⊢
      omega
    have hrec := ih s1 b s' f rest (by rw [p1]; exact hvts) (by rw [p1]; omega) h2 (by simp at hc; omega)
      (by simp at hf; omega) hstop hinv1 (fun h3 => by rw [p1]; exact (h4k h3).2)
    rw [decToksChk, remainingChk, need_bind hpos rfl, hcond, if_pos rfl, List.append_assoc,
      chk_bind (decTokChk_ok p plain s t hps hlz hsz hvt hinv a s1 h1 (b ++ rest)) rfl,
      decTok_encTok' (pred p) plain s t hvt a s1 h1 (b ++ rest)]
    exact hrec

/-- the block size the decoder derives makes the loop stop after the block's tokens -/
theorem decToksChk_block (p : Params) (plain : Array Nat)
    (hps : ParamsSafe p) (hlz : LazyDepthOK p) (hsz : plain.size < 2147483648)
    (s0 : PState Chain) (ts : List Token) (last : Bool)
    (hc : s0.count = 0) (hv : ValidToks plain s0.pos ts) (hpos : s0.pos ≤ plain.size)
    (hlast : last = true → toksEnd s0.pos ts = plain.size)
    (tokOps : List Op) (s' : PState Chain) (he : encToks (pred p) plain s0 ts = .ok (tokOps, s')) (rest : List Op)
    (tcv bsz : Nat)
    (htc : tcv = if (!last && ts.length ≠ (pred p).maxTokenCount) || ts.length > (pred p).maxTokenCount
                 then ts.length + 1 else 0)
    (hbs : bsz = if tcv = 0 then (pred p).maxTokenCount else tcv - 1)
    (hinv : RunInv p plain s0) (h4k : p.addPolicy = 3 → NoRefAt4k s0.pos (ts.map tokenLen)) :
    decToksChk p plain bsz (bsz + 1) s0 (tokOps ++ rest) = .ok () := by
  obtain ⟨hp, hcnt⟩ := encToks_state (pred p) plain ts s0 tokOps s' he
  rw [hc] at hcnt
  by_cases hcond : ((!last && ts.length ≠ (pred p).maxTokenCount) || ts.length > (pred p).maxTokenCount) = true
  · rw [if_pos hcond] at htc
    have hb : bsz = ts.length := by rw [hbs, htc]; simp
    subst hb
    refine decToksChk_ok p plain hps hlz hsz _ ts s0 tokOps s' _ rest hv hpos he (by omega) (by omega) ?_ hinv h4k
    simp [hcnt]
  · rw [if_neg hcond] at htc
    have hb : bsz = (pred p).maxTokenCount := by rw [hbs, htc]; simp
    subst hb
    simp at hcond
    obtain ⟨h1, h2⟩ := hcond
    refine decToksChk_ok p plain hps hlz hsz _ ts s0 tokOps s' _ rest hv hpos he (by omega) (by omega) ?_ hinv h4k
    cases last with
    | true =>
      have := hlast rfl
      simp [PState.eof, hp, this]
    | false =>
      have := h1 rfl
      simp [hcnt, this]

theorem decStoredChk_ok (p : Params) (plain : Array Nat)
    (hps : ParamsSafe p) (hsz : plain.size < 2147483648) :
    ∀ (n : Nat) (s : PState Chain), s.pos + n ≤ plain.size → s.pending = none → RunInv p plain s →
      decStoredChk p plain n s = .ok ()
  | 0, _, _, _, _ => rfl
  | n + 1, s, hend, hpn, hinv => by
    obtain ⟨hchk, hnext⟩ := storedStep_ok hps hsz s (by omega) hpn hinv
    rw [decStoredChk, curCharChk, need_bind (show s.pos < plain.size by omega) rfl, chk_bind hchk rfl]
    exact decStoredChk_ok p plain hps hsz n _ (by dsimp only; omega) hpn hnext

theorem decBlockChk_tokBlock (p : Params) (plain : Array Nat)
    (hps : ParamsSafe p) (hlz : LazyDepthOK p) (hsz : plain.size < 2147483648)
    (s : PState Chain) (btn : Nat) (hbt : btn = 2 ∨ btn = 0) (ts : List Token) (last : Bool)
    (tree : R (List Op)) (hv : ValidToks plain s.pos ts) (hpos : s.pos ≤ plain.size)
    (hlast : last = true → toksEnd s.pos ts = plain.size)
    (hinv : RunInv p plain s) (h4k : p.addPolicy = 3 → NoRefAt4k s.pos (ts.map tokenLen))
    (ops : List Op) (s' : PState Chain)
    (he : encTokBlock (pred p) plain { s with count := 0, pending := none } btn ts last tree = .ok (ops, s'))
    (rest : List Op) :
    decBlockChk p plain s (ops ++ rest) = .ok () := by
  obtain ⟨tokOps, treeOps, -, htok, -, rfl⟩ := encTokBlock_ok he
  have hdt := decToksChk_block p plain hps hlz hsz { s with count := 0, pending := none } ts last rfl hv hpos
    hlast tokOps s' htok (treeOps ++ rest) _ _ rfl rfl hinv.blockStart h4k
  unfold decBlockChk
  simp only [List.cons_append, List.append_assoc, popCorr_cons, decDiff_encDiff]
  rcases hbt with rfl | rfl
  · simp only [show ¬ (2 = 1) by omega, if_false, true_or, if_true]
    exact hdt
  · simp only [show ¬ (0 = 1) by omega, if_false, or_true, if_true]
    exact hdt

theorem decBlockChk_ok (p : Params) (plain : Array Nat)
    (hps : ParamsSafe p) (hlz : LazyDepthOK p) (hsz : plain.size < 2147483648)
    (s : PState Chain) (b : Block) (last : Bool)
    (hv : ValidBlock plain s.pos b) (hpos : s.pos ≤ plain.size)
    (hlast : last = true → blockEnd s.pos b = plain.size)
    (hinv : RunInv p plain s) (h4k : p.addPolicy = 3 → NoRefAt4k s.pos (blockLens b))
    (ops : List Op) (s' : PState Chain) (he : encBlock (pred p) plain s b last = .ok (ops, s'))
    (rest : List Op) :
    decBlockChk p plain s (ops ++ rest) = .ok () := by
  cases b with
  | stored pad data =>
    obtain ⟨hpad, hlen, hsz', hdata⟩ := hv
    cases he
    have e1 : data.length % 65536 = data.length := Nat.mod_eq_of_lt hlen
    have hinv0 := hinv.blockStart
    have := decStoredChk_ok p plain hps hsz data.length { s with count := 0, pending := none } hsz' rfl hinv0
    unfold decBlockChk
    simp only [List.cons_append, List.nil_append, blockTypeNum, popCorr_cons, decDiff_encDiff, if_true,
      popValue_cons, e1]
    exact this
  | fixed ts =>
    rw [encBlock_fixed] at he
    exact decBlockChk_tokBlock p plain hps hlz hsz s 2 (Or.inl rfl) ts last _ hv.1 hpos hlast hinv h4k ops s' he rest
  | dynamic h ts =>
    rw [encBlock_dynamic] at he
    exact decBlockChk_tokBlock p plain hps hlz hsz s 0 (Or.inr rfl) ts last _ hv.1 hpos hlast hinv h4k ops s' he rest

/-- `is_eof` check followed by the block loop (mirror of `decTail`) -/
def decTailChk (p : Params) (plain : Array Nat) (fuel : Nat) (s : PState Chain) (ops : List Op) : R Unit := do
  remainingChk plain s.pos
  match decIsEof plain s ops with
  | .error _ => .ok ()
  | .ok (isEof, ops) => if isEof then .ok () else decBlocksChk p plain fuel s ops

theorem decBlocksChk_succ (p : Params) (plain : Array Nat) (fuel : Nat) (s : PState Chain) (ops : List Op) :
    decBlocksChk p plain (fuel + 1) s ops = (do
      decBlockChk p plain s ops
      match decBlock (pred p) plain s ops with
      | .error _ => .ok ()
      | .ok (_, ops, s) => decTailChk p plain fuel s ops) := rfl

theorem decTailChk_encBlocks (p : Params) (plain : Array Nat)
    (hps : ParamsSafe p) (hlz : LazyDepthOK p) (hsz : plain.size < 2147483648) :
    ∀ (blocks : List Block) (s : PState Chain) (ops : List Op) (s' : PState Chain) (fuel : Nat),
    ValidBlocks plain s.pos blocks → blocksEnd s.pos blocks = plain.size →
    encBlocks (pred p) plain s blocks = .ok (ops, s') → ops.length < fuel →
    RunInv p plain s → (p.addPolicy = 3 → NoRefAt4k s.pos (streamLens blocks)) →
    ∀ rest, decTailChk p plain fuel s (ops ++ Op.mis M_EOF false :: rest) = .ok () := by
  intro blocks
  induction blocks with
  | nil =>
    intro s ops s' fuel _ hend he _ _ _ rest
    cases he
    have heof : s.eof plain = true := decide_eq_true (Nat.le_of_eq hend.symm)
    have hpos : s.pos ≤ plain.size := Nat.le_of_eq hend
    unfold decTailChk remainingChk
    rw [need_bind hpos rfl]
    simp [decIsEof, heof, bind, Except.bind]
  | cons b bs ih =>
    intro s ops s' fuel hv hend he hf hinv h4k rest
    obtain ⟨hvb, hvbs⟩ := hv
    have hpos : s.pos ≤ plain.size := by rw [← hend]; exact le_blocksEnd _ _
    obtain ⟨a, s1, r, h1, h2, rfl⟩ := encBlocks_cons_ok he
    have hlast : bs.isEmpty = true → blockEnd s.pos b = plain.size := fun hb => by
      rw [List.isEmpty_iff.mp hb] at hend
      exact hend
    have h4s := fun h3 => noRefAt4k_cons_block b bs s.pos (h4k h3)
    obtain ⟨hdb, hp1, hlen⟩ :=
      decBlock_encBlock (pred p) plain s b bs.isEmpty hvb hlast a s1 h1 (r ++ Op.mis M_EOF false :: rest)
    have hchk := decBlockChk_ok p plain hps hlz hsz s b bs.isEmpty hvb hpos hlast hinv (fun h3 => (h4s h3).1)
      a s1 h1 (r ++ Op.mis M_EOF false :: rest)
    have hinv1 := encBlock_runInv hps hsz hvb hinv (fun h3 => (h4s h3).1) h1
    obtain ⟨f, rfl⟩ : ∃ f, fuel = f + 1 := ⟨fuel - 1, by omega⟩
    have hrec := ih s1 r s' f (by rw [hp1]; exact hvbs) (by rw [hp1]; exact hend) h2
      (by simp at hf; omega) hinv1 (fun h3 => by rw [hp1]; exact (h4s h3).2) rest
    unfold decTailChk remainingChk
    rw [need_bind hpos rfl]
    simp only [List.append_assoc, decIsEof_enc, Bool.false_eq_true, if_false]
    rw [decBlocksChk_succ, hchk]
    simp only [R_ok_bind, hdb]
    exact hrec

/-- Reconstruction side. Replaying the corrections that the analysis of a valid stream produced
    (`encStream (pred p) plain blocks pad = .ok ops`), `recreate_block` — `predict_token` and
    `repredict_reference` at the same states, `hop_match` with the decoded length, `commit_token`, the
    stored-block loop — reaches none of the panic sites of the match finder / hash chains. Same
    hypotheses as `encStreamChk_ok`. -/
theorem decStreamChk_ok (p : Params) (plain : Array Nat) (blocks : List Block) (pad : Nat)
    (hr : EstimatorRange p) (hlz : LazyDepthOK p) (hsz : plain.size < 2147483648)
    (hv : StreamValid plain blocks) (_hpad : pad < 256)
    (h4k : p.addPolicy = 3 → NoRefAt4k 0 (streamLens blocks))
    (ops : List Op) (he : encStream (pred p) plain blocks pad = .ok ops) :
    decStreamChk p plain ops = .ok () := by
  have hps := paramsSafe_of_estimatorRange p hr
  obtain ⟨ops1, s1, hb, -, rfl⟩ := encStream_ok he
  cases blocks with
  | nil => exact absurd rfl hv.1
  | cons b bs =>
    obtain ⟨a, s2, r, -, -, rfl⟩ := encBlocks_cons_ok hb
    -- after `TokenPredictor::new`, `decStreamChk` is `decTailChk` with the fuel it computes behind `is_eof`
    have htail := decTailChk_encBlocks p plain hps hlz hsz (b :: bs) ⟨(pred p).init, none, 0, 0⟩ _ s1
      ((a ++ (r ++ [Op.mis M_EOF false, Op.corr C_NONZERO_PADDING pad])).length + 1) hv.2.1 hv.2.2 hb
      (by simp only [List.length_append, List.length_cons]; split <;> simp <;> omega)
      (runInv_init p plain) h4k [Op.corr C_NONZERO_PADDING pad]
    unfold decTailChk at htail
    unfold decStreamChk
    rw [chk_bind (holderNewChk_ok hps) rfl,
      show (⟨Chain.init, none, 0, 0⟩ : PState Chain) = ⟨(pred p).init, none, 0, 0⟩ from rfl]
    simp only [List.append_assoc, decIsEof_enc, Bool.false_eq_true, if_false] at htail ⊢
    exact htail

end Preflate.Proofs

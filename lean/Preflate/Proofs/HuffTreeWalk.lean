/-
Walking the array-encoded tree: every step stays inside the array, and the bits consumed on the
way to a leaf are exactly the canonical code of the symbol stored there.
-/
import Preflate.Proofs.HuffTreeBuild
namespace Preflate.Proofs
open Preflate

def bitVal (bit : Bool) : Nat := if bit then 1 else 0

theorem bitVal_lt (bit : Bool) : bitVal bit < 2 := by
  unfold bitVal; split <;> omega

/-- the code of the node at position `p` of level `b`: the bits that lead to it from the root -/
def path (l : List Nat) (b p : Nat) : Bits := (bitsOfNat b (nextCode l b + p)).reverse

/-- what `decode_symbol` does with the entry `e` it has read: a leaf ends the walk -/
def reach (t : Array Int) (fuel : Nat) (e : Int) (rest : Bits) : R (Nat × Bits) :=
  if e < 0 then .ok ((0 - (e + 1)).toNat, rest) else walkTree t fuel e rest

theorem reach_leaf (t : Array Int) (fuel s : Nat) (rest : Bits) :
    reach t fuel (-1 - (s : Int)) rest = .ok (s, rest) := by
  rw [reach, if_pos (by omega)]
  congr 2
  omega

theorem reach_inner (l : List Nat) (t : Array Int) (fuel b k : Nat) (rest : Bits) :
    reach t fuel (entry l b (cntP l b + k)) rest = walkTree t fuel (entry l b (cntP l b + k)) rest := by
  rw [reach, entry_inner, if_neg (by omega)]

/-- the code of a child is the code of its parent followed by the bit that selects it -/
theorem path_child (l : List Nat) (b k : Nat) (bit : Bool) :
    path l (b + 1) (2 * k + bitVal bit) = path l b (cntP l b + k) ++ [bit] := by
  have h0 : nextCode l (b + 1) + (2 * k + bitVal bit)
      = 2 * (nextCode l b + (cntP l b + k)) + bitVal bit := by
    rw [nextCode_succ]; omega
  have h1 : (2 * (nextCode l b + (cntP l b + k)) + bitVal bit) / 2 = nextCode l b + (cntP l b + k) := by
    have := bitVal_lt bit
    omega
  have h2 : ((2 * (nextCode l b + (cntP l b + k)) + bitVal bit) % 2 == 1) = bit := by
    unfold bitVal; cases bit <;> simp <;> omega
  rw [path, h0, bitsOfNat, h1, h2, List.reverse_cons, path]

theorem child_parent (l : List Nat) (b p : Nat) (hp : p < width l (b + 1)) :
    ∃ k bit, cntP l b + k < width l b ∧ p = 2 * k + bitVal bit := by
  refine ⟨p / 2, p % 2 == 1, ?_, ?_⟩
  · rw [width_succ] at hp
    omega
  · unfold bitVal
    rcases Nat.mod_two_eq_zero_or_one p with h | h <;> simp [h] <;> omega

theorem walk_step {l : List Nat} {t : Array Int} (ht : TreeOK l t)
    (b k : Nat) (hb : b ≤ 14) (hk : cntP l b + k < width l b) (bit : Bool) (rest : Bits)
    (fuel : Nat) :
    walkTree t (fuel + 1) (entry l b (cntP l b + k)) (bit :: rest) =
      reach t fuel (entry l (b + 1) (2 * k + bitVal bit)) rest := by
  have hc : 2 * k + bitVal bit < width l (b + 1) := by
    have := bitVal_lt bit
    rw [width_succ]
    omega
  have hi : entry l b (cntP l b + k) + (if bit then 1 else 0)
      = ((startOf l (b + 1) + (2 * k + bitVal bit) : Nat) : Int) := by
    rw [entry_inner]
    unfold bitVal
    cases bit <;> simp <;> omega
  have hent := ht.ent (b + 1) _ (by omega) (by omega) hc
  have hin : startOf l (b + 1) + (2 * k + bitVal bit) < t.size := by
    have := block_le l (b := b + 1) (by omega) (by omega)
    rw [ht.size]
    omega
  rw [walkTree]
  simp only [hi]
  rw [if_neg (by simp only [Int.toNat_natCast]; omega)]
  simp only [Int.toNat_natCast, hent, reach]

theorem codeBits_eq {l : List Nat} (s b p : Nat) (hl : l.getD s 0 = b) (hr : countEq (l.take s) b = p) :
    codeBits l s = path l b p := by
  rw [codeBits, codeOf, hl, hr, path]

theorem walk_fwd {l : List Nat} {t : Array Int} (hc : Complete l) (ht : TreeOK l t) :
    ∀ (bs : Bits) (b k fuel : Nat), b ≤ 14 → cntP l b + k < width l b → bs.length < fuel →
      walkTree t fuel (entry l b (cntP l b + k)) bs = .error .err ∨
      ∃ s rest, walkTree t fuel (entry l b (cntP l b + k)) bs = .ok (s, rest) ∧
        path l b (cntP l b + k) ++ bs = codeBits l s ++ rest ∧ s < l.length ∧ l.getD s 0 ≠ 0 := by
  intro bs
  induction bs with
  | nil =>
    intro b k fuel _ _ hf
    obtain ⟨f, rfl⟩ : ∃ f, fuel = f + 1 := ⟨fuel - 1, by omega⟩
    exact .inl rfl
  | cons bit bs ih =>
    intro b k fuel hb hk hf
    obtain ⟨f, rfl⟩ : ∃ f, fuel = f + 1 := ⟨fuel - 1, by omega⟩
    rw [walk_step ht b k hb hk, ← List.singleton_append (l := bs), ← List.append_assoc,
      ← path_child l b k bit]
    have hcw : 2 * k + bitVal bit < width l (b + 1) := by
      have := bitVal_lt bit
      rw [width_succ]
      omega
    generalize 2 * k + bitVal bit = c at hcw ⊢
    by_cases hleaf : c < cntP l (b + 1)
    · obtain ⟨s, hs1, hs2, hs3, hs4⟩ := entry_leaf l (Nat.succ_pos b) hleaf
      rw [hs4, reach_leaf]
      exact .inr ⟨s, bs, rfl, by rw [codeBits_eq s (b + 1) c hs2 hs3], hs1, by omega⟩
    · obtain ⟨k', rfl⟩ := Nat.exists_eq_add_of_le (Nat.le_of_not_lt hleaf)
      -- level 15 has no inner nodes, since level 16 is empty
      have hb' : b + 1 ≤ 14 := by
        refine Nat.le_of_not_lt fun h => ?_
        have : b = 14 := by omega
        subst this
        have : width l 16 = (width l (14 + 1) - cntP l (14 + 1)) * 2 := width_succ l 15
        have := hc.top
        omega
      rw [reach_inner]
      exact ih (b + 1) k' f hb' hcw (by simpa using hf)

theorem walk_path {l : List Nat} {t : Array Int} (ht : TreeOK l t) :
    ∀ (b k : Nat) (rest : Bits) (fuel : Nat), b ≤ 14 → cntP l b + k < width l b →
      walkTree t (fuel + b) (entry l 0 0) (path l b (cntP l b + k) ++ rest)
        = walkTree t fuel (entry l b (cntP l b + k)) rest := by
  intro b
  induction b with
  | zero =>
    intro k rest fuel _ hk
    have : k = 0 := by simp [width, cntP] at hk; omega
    subst this
    simp [path, bitsOfNat, cntP]
  | succ b ih =>
    intro k rest fuel hb hk
    obtain ⟨k', bit, hk', hq⟩ := child_parent l b _ hk
    rw [hq, path_child, List.append_assoc, List.singleton_append,
      show fuel + (b + 1) = (fuel + 1) + b by omega, ih k' _ (fuel + 1) (by omega) hk',
      walk_step ht b k' (by omega) hk', ← hq, reach_inner]

theorem walk_code {l : List Nat} {t : Array Int} (hc : Complete l) (ht : TreeOK l t)
    (s : Nat) (hs : s < l.length) (hl : l.getD s 0 ≠ 0) (rest : Bits) (fuel : Nat) :
    walkTree t (fuel + l.getD s 0) (entry l 0 0) (codeBits l s ++ rest) = .ok (s, rest) := by
  obtain ⟨b, hb⟩ : ∃ b, l.getD s 0 = b + 1 := ⟨l.getD s 0 - 1, by omega⟩
  have hb15 : b + 1 ≤ 15 := by
    have hg : l.getD s 0 = l[s] := by simp [List.getD, hs]
    have := hc.lt16 l[s] (List.getElem_mem hs)
    omega
  obtain ⟨hp, he⟩ := entry_rank l hs hb rfl (Nat.succ_pos b)
  obtain ⟨k, bit, hk, hq⟩ := child_parent l b _ (Nat.lt_of_lt_of_le hp (hc.le (b + 1) hb15))
  rw [codeBits_eq s (b + 1) _ hb rfl, hb, hq, path_child, List.append_assoc, List.singleton_append,
    show fuel + (b + 1) = (fuel + 1) + b by omega, walk_path ht b k _ (fuel + 1) (by omega) hk,
    walk_step ht b k (by omega) hk, ← hq, he, reach_leaf]

end Preflate.Proofs

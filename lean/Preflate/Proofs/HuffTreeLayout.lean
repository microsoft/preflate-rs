/-
Layout of the array built by `buildTree` (calculate_huffman_code_tree): level widths `width`,
level start offsets `startOf`, what the Kraft loop of the validity check establishes about them
(`Complete`), and the size of the array.
-/
import Preflate.Model.HuffTree
import Preflate.Proofs.Bits
namespace Preflate.Proofs
open Preflate

/-- number of codes of length `b`, for positive `b` only ("P"): length 0 means "no code", and level 0
    (the virtual root) has none -/
def cntP (l : List Nat) (b : Nat) : Nat := if b = 0 then 0 else countEq l b

/-- number of tree nodes at depth `b` (the `internal_nodes` counter of the Kraft loop) -/
def width (l : List Nat) : Nat → Nat
  | 0 => 1
  | b + 1 => (width l b - cntP l b) * 2

/-- sum of the widths of the `d` deepest levels 15, 14, …, 16 - d ("D": `d` counts levels from the
    deepest one, the order in which `buildTree` lays the blocks out) -/
def startD (l : List Nat) : Nat → Nat
  | 0 => 0
  | d + 1 => startD l d + width l (15 - d)

/-- array index at which the block of level `b` starts -/
def startOf (l : List Nat) (b : Nat) : Nat := startD l (15 - b)

theorem nextCode_succ (l : List Nat) (b : Nat) :
    nextCode l (b + 1) = (nextCode l b + cntP l b) * 2 := by
  simp [nextCode, cntP]

theorem cntP_pos (l : List Nat) {b : Nat} (h : 1 ≤ b) : cntP l b = countEq l b := by
  simp [cntP]; omega

theorem width_succ (l : List Nat) (b : Nat) : width l (b + 1) = (width l b - cntP l b) * 2 := rfl

theorem width_one (l : List Nat) : width l 1 = 2 := rfl

/-- what the Kraft loop establishes -/
structure Complete (l : List Nat) : Prop where
  le : ∀ b, b ≤ 15 → cntP l b ≤ width l b
  top : width l 16 = 0
  lt16 : ∀ x ∈ l, x < 16

theorem kraftLoop_spec (l : List Nat) (fuel i : Nat) (hi : 1 ≤ i)
    (h : kraftLoop l fuel i (width l i) = true) :
    (∀ j, i ≤ j → j < i + fuel → cntP l j ≤ width l j) ∧ width l (i + fuel) = 0 := by
  induction fuel generalizing i with
  | zero =>
    simp only [kraftLoop, beq_iff_eq] at h
    exact ⟨fun j h1 h2 => by omega, by simpa using h⟩
  | succ fuel ih =>
    simp only [kraftLoop] at h
    rw [← cntP_pos l hi] at h
    by_cases hlt : width l i < cntP l i
    · rw [if_pos hlt] at h
      cases h
    · rw [if_neg hlt, ← width_succ] at h
      obtain ⟨h1, h2⟩ := ih (i + 1) (by omega) h
      refine ⟨fun j hj1 hj2 => ?_, ?_⟩
      · by_cases hj : j = i
        · subst hj; omega
        · exact h1 j (by omega) (by omega)
      · rw [show i + (fuel + 1) = i + 1 + fuel by omega]; exact h2

theorem complete_of_valid {l : List Nat} (h : validLengths l = true) : Complete l := by
  simp only [validLengths, Bool.and_eq_true, List.all_eq_true, decide_eq_true_eq] at h
  obtain ⟨⟨_, hlt⟩, hk⟩ := h
  obtain ⟨h1, h2⟩ := kraftLoop_spec l 15 1 (by omega) hk
  refine ⟨fun b hb => ?_, h2, hlt⟩
  by_cases hb0 : b = 0
  · subst hb0; simp [cntP]
  · exact h1 b (by omega) (by omega)

theorem startOf_succ (l : List Nat) {b : Nat} (hb : b < 15) :
    startOf l b = startOf l (b + 1) + width l (b + 1) := by
  unfold startOf
  rw [show 15 - b = (15 - (b + 1)) + 1 by omega, startD]
  congr 2; omega

theorem startOf_16 (l : List Nat) : startOf l 16 = 0 := rfl

/-- level 16 is empty, so the equation also holds for the deepest level -/
theorem startOf_succ_of_complete {l : List Nat} (hc : Complete l) {b : Nat} (h15 : b ≤ 15) :
    startOf l b = startOf l (b + 1) + width l (b + 1) := by
  by_cases h : b < 15
  · exact startOf_succ l h
  · have : b = 15 := by omega
    subst this
    rw [hc.top]; rfl

theorem startD_mono (l : List Nat) (d k : Nat) : startD l d ≤ startD l (d + k) := by
  induction k with
  | zero => simp
  | succ k ih => rw [← Nat.add_assoc, startD]; omega

theorem startOf_le (l : List Nat) {b c : Nat} (h : b ≤ c) : startOf l c ≤ startOf l b := by
  unfold startOf
  have := startD_mono l (15 - c) ((15 - b) - (15 - c))
  rwa [show 15 - c + ((15 - b) - (15 - c)) = 15 - b by omega] at this

theorem block_le (l : List Nat) {b : Nat} (h1 : 1 ≤ b) (h15 : b ≤ 15) :
    startOf l b + width l b ≤ startOf l 0 := by
  have := startOf_succ l (b := b - 1) (by omega)
  rw [show b - 1 + 1 = b by omega] at this
  rw [← this]; exact startOf_le l (by omega)

/-- sum of the counts of the `d` largest lengths (`d` as in `startD`) -/
def cntD (l : List Nat) : Nat → Nat
  | 0 => 0
  | d + 1 => cntD l d + cntP l (15 - d)

theorem cntD_startD {l : List Nat} (hc : Complete l) (d : Nat) (hd : d ≤ 15) :
    2 * cntD l d = startD l d + width l (16 - d) := by
  induction d with
  | zero => simp [cntD, startD, hc.top]
  | succ d ih =>
    have ih := ih (by omega)
    have hw : width l (16 - d) = (width l (15 - d) - cntP l (15 - d)) * 2 := by
      rw [show 16 - d = (15 - d) + 1 by omega, width_succ]
    have := hc.le (15 - d) (by omega)
    rw [show 16 - (d + 1) = 15 - d by omega]
    simp only [cntD, startD]
    omega

theorem countP_split (xs : List Nat) (a : Nat) (ha : a + 1 ≤ 15) :
    xs.countP (fun x => a + 1 < x ∧ x ≤ 15) + countEq xs (a + 1)
      = xs.countP (fun x => a < x ∧ x ≤ 15) := by
  rw [countEq, ← List.countP_eq_length_filter]
  induction xs with
  | nil => rfl
  | cons x xs ih =>
    simp only [List.countP_cons, decide_eq_true_eq, beq_iff_eq]
    split <;> split <;> split <;> omega

theorem cntD_countP (l : List Nat) (d : Nat) (hd : d ≤ 15) :
    cntD l d = l.countP (fun x => 15 - d < x ∧ x ≤ 15) := by
  induction d with
  | zero =>
    rw [cntD, eq_comm, List.countP_eq_zero]
    intro x _
    simp only [decide_eq_true_eq]
    omega
  | succ d ih =>
    rw [cntD, ih (by omega), cntP_pos l (by omega), ← countP_split l (15 - (d + 1)) (by omega),
      show 15 - (d + 1) + 1 = 15 - d by omega]

theorem size_eq {l : List Nat} (hc : Complete l) :
    startOf l 0 = ((l.filter (· ≠ 0)).length - 1) * 2 := by
  have h1 := cntD_startD hc 15 (by omega)
  rw [cntD_countP l 15 (by omega), show 16 - 15 = 1 by omega, width_one, List.countP_eq_length_filter,
    List.filter_congr (q := (· ≠ 0)) fun x hx => decide_eq_decide.mpr
      ⟨fun _ => by omega, fun _ => by have := hc.lt16 x hx; omega⟩] at h1
  rw [startOf, Nat.sub_zero]
  omega

end Preflate.Proofs

/-
`parse_valid`, tokens and blocks: what `decodeTokens` / `readBlock` / `readBlocks` return is a valid
LZ77 expansion of the plaintext they build.
-/
import Preflate.Proofs.ExpandsHeader
namespace Preflate.Proofs
open Preflate Preflate.Gen

variable {lt dt : List (Bits × Nat)} {fuel : Nat} {plain plain' : Array Nat} {bs rest : Bits}
  {ts : List Token} {last : Bool} {b : Block} {blocks : List Block}

theorem decodeTokens_valid (h : decodeTokens lt dt fuel plain bs = .ok (ts, plain', rest)) :
    Extends plain plain' ∧ plain'.size = toksEnd plain.size ts ∧ ValidToks plain' plain.size ts := by
  refine decodeTokens_induct ?_ ?_ ?_ h
  · exact fun _ _ _ _ _ _ => ⟨Extends.refl _, rfl, trivial⟩
  · intro _ plain _ sym _ ts plain' _ _ _ _ ⟨he, hsz, hv⟩
    rw [Array.size_push] at hsz hv
    exact ⟨(extends_push _ _).trans he, hsz,
      validTok_mono he ⟨by rw [Array.size_push]; omega, (getD_push_eq _ _).symm⟩, hv⟩
  · intro _ plain _ lc _ ex _ dc _ dx _ ts plain' _ _ _ hlc h2 _ hdc h4 hdist ⟨he, hsz, hv⟩
    have c1 := size_copyRef (1 + distBase dc + dx) (3 + lengthBase lc + ex) plain
    rw [c1] at hsz hv
    have hlb := length_bound _ hlc
    have hdb := dist_bound _ hdc
    have hex := (readBits_ok h2).2
    have hdx := (readBits_ok h4).2
    refine ⟨(extends_copyRef ..).trans he, hsz, validTok_mono he ⟨by omega, by omega, by omega, hdist, by omega,
      by omega, matchAt_copyRef _ _ _ (by omega) hdist, fun hirr => ?_⟩, hv⟩
    rw [Bool.and_eq_true, beq_iff_eq] at hirr
    exact hirr.1

/-- one Huffman block: the plain text it leaves passed `check_plain_text_size`, and every token
    added at least one byte -/
theorem decodeTokens_limit (h : decodeTokens lt dt fuel plain bs = .ok (ts, plain', rest)) :
    plain'.size ≤ PLAIN_LIMIT ∧ plain.size + ts.length ≤ plain'.size := by
  refine decodeTokens_induct ?_ ?_ ?_ h
  · exact fun _ _ _ _ hlim _ => ⟨hlim, Nat.le_refl _⟩
  · intro _ plain _ sym _ ts _ _ _ _ _ ⟨a, b⟩
    rw [Array.size_push] at b
    exact ⟨a, by rw [List.length_cons]; omega⟩
  · intro _ plain _ lc _ ex _ dc _ dx _ ts _ _ _ _ _ _ _ _ _ _ ⟨a, b⟩
    rw [size_copyRef] at b
    exact ⟨a, by rw [List.length_cons]; omega⟩

theorem plain_limit_val : PLAIN_LIMIT = 2147418112 := rfl

/-- `ValidBlock` demands that a block's token count fits the `u32` of the token-count correction
    (`u32::try_from(tokens.len()).unwrap() + 1`); it does, because every token adds a byte and the
    plain text of a Huffman block stays within `PLAIN_LIMIT` -/
theorem readBlock_valid (h : readBlock plain bs = .ok (last, b, plain', rest)) :
    Extends plain plain' ∧ plain'.size = blockEnd plain.size b ∧ ValidBlock plain' plain.size b := by
  obtain ⟨l, bs1, mode, bs2, -, -, -, hb⟩ := readBlock_eq_ok.mp h
  cases hb with
  | @stored pad len _ _ _ _ _ data h3 h4 _ _ _ h6 =>
    have hpad := (readBits_ok h3).2
    have hlen : len < 2 ^ 16 := (readBits_ok h4).2
    have hdl := (readBytes_ok h6).2
    have : 2 ^ (bs2.length % 8) ≤ 2 ^ 7 := Nat.pow_le_pow_right (by omega) (by omega)
    have p1 := size_pushAll data plain
    exact ⟨extends_pushAll data plain, p1, by omega, by omega, by omega, stored_data_eq plain data⟩
  | fixed h3 =>
    obtain ⟨e1, e2, e3⟩ := decodeTokens_valid h3
    have := decodeTokens_limit h3
    exact ⟨e1, e2, e3, by rw [plain_limit_val] at this; omega⟩
  | dynamic h3 _ _ _ h5 =>
    obtain ⟨e1, e2, e3⟩ := decodeTokens_valid h5
    have := decodeTokens_limit h5
    exact ⟨e1, e2, e3, by rw [plain_limit_val] at this; omega, readHeader_valid h3⟩

theorem readBlocks_valid (h : readBlocks fuel plain bs = .ok (blocks, plain', rest)) :
    Extends plain plain' ∧ plain'.size = blocksEnd plain.size blocks ∧
      ValidBlocks plain' plain.size blocks ∧ blocks ≠ [] := by
  refine readBlocks_induct ?_ ?_ h
  · intro _ plain _ b plain' _ h1
    obtain ⟨e1, e2, e3⟩ := readBlock_valid h1
    exact ⟨e1, e2, ⟨e3, trivial⟩, List.cons_ne_nil _ _⟩
  · intro _ plain _ b plain1 _ r plain' _ h1 ⟨f1, f2, f3, _⟩
    obtain ⟨e1, e2, e3⟩ := readBlock_valid h1
    rw [e2] at f2 f3
    exact ⟨e1.trans f1, f2, ⟨validBlock_mono f1 e3, f3⟩, List.cons_ne_nil _ _⟩

end Preflate.Proofs

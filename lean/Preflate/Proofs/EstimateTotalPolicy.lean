/- What `estimate_add_policy` guarantees (for the no-panic proof of the parameter estimator).
   The window of u16 marks mirrors, for the last 32768 positions, whether a position is the first /
   an interior / the last byte of a match (`tokMark`); the statistics dominate the mark of every
   referenced position (`RefsGood`), so the chosen policy inserts every referenced position
   (`RefsIns`, `addPolicy_refsIns`). Conversely `update_hash` under that policy skips only positions
   whose mark says they are not inserted (`policyUpdateR_spec`). -/
import Preflate.Proofs.EstimateTotalBase
namespace Preflate.Proofs.EstTotal
open Preflate Preflate.Est

/-- the mark `estimate_add_policy` leaves in its window for byte `i` of a token at `p` -/
def tokMark (p : Nat) : Token → Nat → Nat
  | .lit _, _ => 0
  | .ref len _ _, i =>
      if i = 0 then 0
      else (len % 65536) ||| (if i = len - 1 then (LAST_ADDED ||| (if is32k len p then LAST_32K else 0)) else 0)

/-- `M` gives the mark of every position of the tokens `ts` starting at `p` -/
def MarksAgree (M : Nat → Nat) : Nat → List Token → Prop
  | _, [] => True
  | p, t :: ts => (∀ i, i < tokenLen t → M (p + i) = tokMark p t i) ∧ MarksAgree M (p + tokenLen t) ts

def markAt : Nat → List Token → Nat → Nat
  | _, [], _ => 0
  | p, t :: ts, q => if q < p + tokenLen t then tokMark p t (q - p) else markAt (p + tokenLen t) ts q

theorem marksAgree_markAt (M : Nat → Nat) : ∀ (ts : List Token) (p : Nat),
    (∀ q, p ≤ q → M q = markAt p ts q) → MarksAgree M p ts := by
  intro ts
  induction ts with
  | nil => intro _ _; trivial
  | cons t ts ih =>
    intro p h
    refine ⟨?_, ih _ ?_⟩
    · intro i hi
      rw [h (p + i) (by omega)]
      simp only [markAt]
      rw [if_pos (by omega)]
      congr 1; omega
    · intro q hq
      rw [h q (by omega)]
      simp only [markAt]
      rw [if_neg (by omega)]

theorem markAt_agrees (ts : List Token) : MarksAgree (markAt 0 ts) 0 ts :=
  marksAgree_markAt _ ts 0 (fun _ _ => rfl)

/-- the window of `estimate_add_policy` holds, for each of the last 32768 positions, the mark `M` assigns
    to it; older positions have been overwritten -/
structure WInv (s : AddState) (M : Nat → Nat) : Prop where
  size : s.window.size = 32768
  win : ∀ q, q < s.offset → s.offset ≤ q + 32768 → s.window[q % 32768]! = M q

/-- the four statistics the decision of `estimate_add_policy` reads only move one way along a run:
    the two maxima grow, `last_outside_32k` once set stays set, `block_4k` once cleared stays cleared -/
structure StatsLe (s s' : AddState) : Prop where
  ml : s.maxLength ≤ s'.maxLength
  mla : s.maxLengthLastAdd ≤ s'.maxLengthLastAdd
  lo : s.lastOutside32k = true → s'.lastOutside32k = true
  b4 : s.block4k = false → s'.block4k = false

theorem StatsLe.refl (s : AddState) : StatsLe s s := ⟨Nat.le_refl _, Nat.le_refl _, id, id⟩

theorem StatsLe.addLiteral (s : AddState) : StatsLe s (addLiteral s) :=
  ⟨Nat.le_refl _, Nat.le_refl _, id, id⟩

theorem StatsLe.trans {a b c : AddState} (h1 : StatsLe a b) (h2 : StatsLe b c) : StatsLe a c :=
  ⟨Nat.le_trans h1.ml h2.ml, Nat.le_trans h1.mla h2.mla, fun h => h2.lo (h1.lo h), fun h => h2.b4 (h1.b4 h)⟩

/-- the statistics of `st` account for a reference at `p` to a position with mark `m` -/
def RefCond (st : AddState) (m p : Nat) : Prop :=
  m &&& 0x0fff ≤ st.maxLength ∧
  (m &&& LAST_ADDED = 0 → m &&& 0x0fff ≤ st.maxLengthLastAdd) ∧
  (m &&& 0x0fff ≠ 0 ∧ m &&& LAST_32K = 0 → st.lastOutside32k = true) ∧
  ((p &&& 4095) ≥ 4093 → st.block4k = false)

theorem RefCond.mono {s s' : AddState} (h : StatsLe s s') {m p : Nat} (hc : RefCond s m p) : RefCond s' m p :=
  ⟨Nat.le_trans hc.1 h.ml, fun hh => Nat.le_trans (hc.2.1 hh) h.mla, fun hh => h.lo (hc.2.2.1 hh),
    fun hh => h.b4 (hc.2.2.2 hh)⟩

/-- `RefCond` for every reference of `ts` (starting at `p`) against the mark of the position it points
    to. Stated for the FINAL statistics `st`, which is why `StatsLe` is carried along. -/
def RefsGood (M : Nat → Nat) (st : AddState) : Nat → List Token → Prop
  | _, [] => True
  | p, .lit _ :: ts => RefsGood M st (p + 1) ts
  | p, .ref len dist _ :: ts => RefCond st (M (p - dist)) p ∧ RefsGood M st (p + len) ts

theorem RefsGood.mono (M : Nat → Nat) {s s' : AddState} (h : StatsLe s s') : ∀ (ts : List Token) (p : Nat),
    RefsGood M s p ts → RefsGood M s' p ts := by
  intro ts
  induction ts with
  | nil => intro _ _; trivial
  | cons t ts ih =>
    intro p hg
    cases t with
    | lit b => exact ih _ hg
    | ref len dist irr => exact ⟨hg.1.mono h, ih _ hg.2⟩

theorem addLiteral_winv (s : AddState) (M : Nat → Nat) (h : WInv s M) (hm : M s.offset = 0) :
    WInv (addLiteral s) M := by
  refine ⟨?_, ?_⟩
  · simp only [addLiteral, size_set!]; exact h.size
  · intro q hq1 hq2
    simp only [addLiteral] at hq1 hq2 ⊢
    rw [and_7fff, get_set!]
    by_cases hq : q = s.offset
    · subst hq
      rw [if_pos ⟨rfl, by rw [h.size]; omega⟩, hm]
    · rw [if_neg (by intro hh; omega)]
      exact h.win q (by omega) (by omega)

/-- the marking loop of a reference of length `len` at `off`: once `k` of the positions after `off`
    are marked, the window agrees with `M` below `off + 1 + k`, as far back as the window will reach
    when the reference is done -/
theorem marks_winv (off len : Nat) (val M : Nat → Nat) (w : Array Nat) (hw : w.size = 32768)
    (hwin : ∀ q, q < off + 1 → off + len ≤ q + 32768 → w[q % 32768]! = M q)
    (hm : ∀ i, 1 ≤ i → i < len → M (off + i) = val i) :
    ∀ k, k + 1 ≤ len → ∀ w', w' = (List.range k).foldl (fun (w : Array Nat) j =>
        w.set! ((off + (j + 1)) &&& 0x7fff) (val (j + 1))) w →
      w'.size = 32768 ∧ ∀ q, q < off + 1 + k → off + len ≤ q + 32768 → w'[q % 32768]! = M q := by
  intro k
  induction k with
  | zero => intro _ w' hw'; subst hw'; exact ⟨hw, hwin⟩
  | succ k ih =>
    intro hk w' hw'
    obtain ⟨i1, i2⟩ := ih (by omega) _ rfl
    subst hw'
    rw [List.range_succ, List.foldl_append]
    simp only [List.foldl_cons, List.foldl_nil]
    refine ⟨by rw [size_set!]; exact i1, fun q hq1 hq2 => ?_⟩
    rw [and_7fff, get_set!]
    by_cases hq : q = off + (k + 1)
    · subst hq
      rw [if_pos ⟨rfl, by rw [i1]; omega⟩]
      exact (hm (k + 1) (by omega) (by omega)).symm
    · rw [if_neg (by omega)]
      exact i2 q (by omega) hq2

theorem addReference_spec (plain : Array Nat) (s : AddState) (M : Nat → Nat) (len dist : Nat) (irr : Bool)
    (h : WInv s M) (hv : VRef plain s.offset len dist)
    (hm : ∀ i, i < len → M (s.offset + i) = tokMark s.offset (.ref len dist irr) i) :
    ∃ s', addReference s len dist = .ok s' ∧ s'.offset = s.offset + len ∧ WInv s' M ∧ StatsLe s s' ∧
      RefCond s' (M (s.offset - dist)) s.offset := by
  obtain ⟨hl3, hl, hd1, hd2, hd3, _, _⟩ := hv
  unfold addReference
  rw [if_neg (by omega)]
  refine ⟨_, rfl, rfl, ?_, ?_, ?_⟩
  · -- the first position is cleared as for a literal, the others are marked by the loop
    have h0 := addLiteral_winv s M h (hm 0 (by omega))
    obtain ⟨f1, f2⟩ := marks_winv s.offset len _ M _ h0.size
      (fun q hq1 hq2 => h0.win q hq1 (by simp only [addLiteral]; omega))
      (fun i _ hi2 => hm i hi2)
      (len - 1) (by omega) _ rfl
    exact ⟨f1, fun q hq1 hq2 => f2 q (by simp only at hq1; omega) hq2⟩
  · refine ⟨Nat.le_max_left _ _, ?_, fun hh => ?_, fun hh => ?_⟩
    · simp only
      split <;> omega
    · simp only
      split
      · rfl
      · exact hh
    · simp only
      split
      · rfl
      · exact hh
  · have hprev : s.window.getD ((s.offset - dist) &&& 0x7fff) 0 = M (s.offset - dist) := by
      rw [getD_eq_get!, and_7fff]
      exact h.win _ (by omega) (by omega)
    simp only [RefCond, hprev]
    refine ⟨Nat.le_max_right _ _, ?_, ?_, ?_⟩
    · intro hh; rw [if_pos hh]; exact Nat.le_max_right _ _
    · intro hh; rw [if_pos hh]
    · intro hh; rw [if_pos hh]

theorem addTokens_spec (plain : Array Nat) (M : Nat → Nat) : ∀ (ts : List Token) (s : AddState),
    VToks plain s.offset ts → MarksAgree M s.offset ts → WInv s M →
    ∃ s', addTokens s ts = .ok s' ∧ WInv s' M ∧ StatsLe s s' ∧ RefsGood M s' s.offset ts
  | [], s, _, _, hw => ⟨s, rfl, hw, .refl s, trivial⟩
  | .lit _ :: ts, s, hv, hm, hw => by
    obtain ⟨s', h1, h2, h3, h4⟩ := addTokens_spec plain M ts (addLiteral s) hv.2 hm.2
      (addLiteral_winv s M hw (hm.1 0 Nat.one_pos))
    exact ⟨s', h1, h2, .trans (.addLiteral s) h3, h4⟩
  | .ref len dist irr :: ts, s, hv, hm, hw => by
    obtain ⟨s1, r1, r2, r3, r4, r5⟩ := addReference_spec plain s M len dist irr hw hv.1 hm.1
    obtain ⟨s', h1, h2, h3, h4⟩ := addTokens_spec plain M ts s1 (r2 ▸ hv.2) (r2 ▸ hm.2) r3
    exact ⟨s', by simp only [addTokens, r1, ok_bind]; exact h1, h2, .trans r4 h3, r5.mono h3, r2 ▸ h4⟩

/-- policy `pol` / `lim` inserts a position whose mark is `m` (positions with mark 0 are the first
    byte of a token; for policy 3 see `RefsIns`) -/
def PolIns (pol lim m : Nat) : Prop :=
  match pol with
  | 0 => True
  | 1 => m &&& 0x0fff ≤ lim
  | 2 => m &&& 0x0fff ≤ lim ∨ m &&& LAST_ADDED ≠ 0
  | 3 => m &&& 0x0fff = 0
  | _ => m &&& 0x0fff = 0 ∨ m &&& LAST_32K ≠ 0

def Ins (pol lim : Nat) (M : Nat → Nat) (q : Nat) : Prop := PolIns pol lim (M q)

/-- every referenced position is one the policy inserts; under policy 3 no reference starts in the
    last three bytes of a 4 KiB block -/
def RefsIns (M : Nat → Nat) (pol lim : Nat) : Nat → List Token → Prop
  | _, [] => True
  | p, .lit _ :: ts => RefsIns M pol lim (p + 1) ts
  | p, .ref len dist _ :: ts =>
      (PolIns pol lim (M (p - dist)) ∧ (pol = 3 → (p &&& 4095) < 4093)) ∧ RefsIns M pol lim (p + len) ts

theorem refCond_polIns (st : AddState) (m p : Nat) (hc : RefCond st m p) :
    PolIns (addDecide st).1 (addDecide st).2 m ∧ ((addDecide st).1 = 3 → (p &&& 4095) < 4093) := by
  obtain ⟨c1, c2, c3, c4⟩ := hc
  fun_cases addDecide st
  · next h =>
    refine ⟨?_, fun _ => ?_⟩
    · show m &&& 0x0fff = 0
      omega
    · by_cases hh : (p &&& 4095) ≥ 4093
      · have := c4 hh; rw [h.2] at this; cases this
      · omega
  · next h =>
    refine ⟨?_, nofun⟩
    show m &&& 0x0fff = 0 ∨ m &&& LAST_32K ≠ 0
    by_cases h1 : m &&& 0x0fff = 0
    · exact Or.inl h1
    · by_cases h2 : m &&& LAST_32K = 0
      · have := c3 ⟨h1, h2⟩; rw [this] at h; cases h
      · exact Or.inr h2
  · refine ⟨?_, nofun⟩
    show m &&& 0x0fff ≤ st.maxLengthLastAdd ∨ m &&& LAST_ADDED ≠ 0
    by_cases h2 : m &&& LAST_ADDED = 0
    · exact Or.inl (c2 h2)
    · exact Or.inr h2
  · exact ⟨c1, nofun⟩
  · exact ⟨trivial, nofun⟩

theorem refsGood_refsIns (M : Nat → Nat) (st : AddState) :
    ∀ (ts : List Token) (p : Nat), RefsGood M st p ts → RefsIns M (addDecide st).1 (addDecide st).2 p ts
  | [], _, _ => trivial
  | .lit _ :: ts, _, hg => refsGood_refsIns M st ts _ hg
  | .ref .. :: ts, p, hg => ⟨refCond_polIns st _ p hg.1, refsGood_refsIns M st ts _ hg.2⟩

theorem addPolicy_refsIns (plain : Array Nat) (blocks : List Block) (hv : ValidBlocks plain 0 blocks)
    (pol lim : Nat) (hp : addPolicy blocks = .ok (pol, lim)) :
    RefsIns (markAt 0 (flat blocks)) pol lim 0 (flat blocks) := by
  rw [addPolicy_eq] at hp
  have hw : WInv { window := Array.replicate 32768 0 } (markAt 0 (flat blocks)) :=
    ⟨by simp, fun q hq _ => by simp only at hq; omega⟩
  obtain ⟨s', h1, _, _, h4⟩ := addTokens_spec plain (markAt 0 (flat blocks)) (flat blocks)
    { window := Array.replicate 32768 0 } (VToks_flat plain blocks 0 hv).1 (markAt_agrees _) hw
  rw [h1, ok_bind] at hp
  obtain ⟨rfl, rfl⟩ := Prod.mk.inj (Except.ok.inj hp)
  exact refsGood_refsIns _ s' _ 0 h4

theorem is32k_eq (l p : Nat) : Chains.is32kBoundary l p = is32k l p := rfl

theorem mark_facts (p len dist : Nat) (irr : Bool) (i : Nat) (hl : len ≤ 258) (hi1 : 1 ≤ i) :
    tokMark p (.ref len dist irr) i &&& 0x0fff = len ∧
    (i ≠ len - 1 → tokMark p (.ref len dist irr) i &&& LAST_ADDED = 0) ∧
    ((i ≠ len - 1 ∨ is32k len p = false) → tokMark p (.ref len dist irr) i &&& LAST_32K = 0) := by
  simp only [tokMark, LAST_ADDED, LAST_32K]
  rw [if_neg (show ¬ i = 0 by omega)]
  by_cases h1 : i = len - 1
  · rw [if_pos h1]
    by_cases h2 : is32k len p = true
    · rw [if_pos h2]
      refine ⟨(mark_and len _ hl rfl).1, fun h => absurd h1 h, fun h => ?_⟩
      rcases h with h | h
      · exact absurd h1 h
      · rw [h2] at h; cases h
    · rw [if_neg h2]
      exact ⟨(mark_and len _ hl rfl).1, fun h => absurd h1 h, fun _ => (mark_and len _ hl rfl).2 _ rfl⟩
  · rw [if_neg h1]
    exact ⟨(mark_and len _ hl rfl).1, fun _ => (mark_and len _ hl rfl).2 _ rfl,
      fun _ => (mark_and len _ hl rfl).2 _ rfl⟩

/-- by its mark, an interior byte of a match is a position the policy inserts only if the policy
    inserts whole matches of that length, or the byte is the last one and the policy inserts those -/
theorem polIns_interior (pol lim p len dist : Nat) (irr : Bool) (i : Nat) (hl3 : 3 ≤ len) (hl : len ≤ 258)
    (hi1 : 1 ≤ i) (h : PolIns pol lim (tokMark p (.ref len dist irr) i)) :
    (pol = 0 ∨ (pol = 1 ∨ pol = 2) ∧ len ≤ lim) ∨
      i = len - 1 ∧ (pol = 2 ∨ 4 ≤ pol ∧ Chains.is32kBoundary len p = true) := by
  obtain ⟨f1, f2, f3⟩ := mark_facts p len dist irr i hl hi1
  match pol, h with
  | 0, _ => exact .inl (.inl rfl)
  | 1, h => exact .inl (.inr ⟨.inl rfl, f1 ▸ h⟩)
  | 2, h =>
    by_cases hi : i = len - 1
    · exact .inr ⟨hi, .inl rfl⟩
    · exact .inl (.inr ⟨.inr rfl, h.elim (f1 ▸ ·) (absurd (f2 hi))⟩)
  | 3, h => exact absurd (f1 ▸ h : len = 0) (by omega)
  | n + 4, h =>
    have h := h.resolve_left fun h => absurd (f1 ▸ h : len = 0) (by omega)
    refine .inr ⟨?_, .inr ⟨by omega, ?_⟩⟩
    · exact Classical.byContradiction fun hi => h (f3 (.inl hi))
    · exact Classical.byContradiction fun hb => h (f3 (.inr (by simpa [is32k_eq] using hb)))

/-- what `update_hash` needs of the token `t` at `p`: it fits the plaintext, `M` holds its marks, and
    under policy 3 a reference does not start in the last three bytes of a 4 KiB block -/
structure TokAt (pol : Nat) (M : Nat → Nat) (size p : Nat) (t : Token) : Prop where
  fit : p + tokenLen t ≤ size
  marks : ∀ i, i < tokenLen t → M (p + i) = tokMark p t i
  ref : ∀ len dist irr, t = .ref len dist irr → 3 ≤ len ∧ len ≤ 258 ∧ (pol = 3 → (p &&& 4095) < 4093)

/-- `update_hash` for the token at `p`, for a state invariant `Inv s q` ("consistent for the inserted
    positions below `q`") that one `upd` re-establishes (`hU`) and that survives skipping positions
    which are not to be inserted (`hA`): the positions of the token the policy skips are not to be
    inserted, by their marks -/
theorem policyUpdateR_spec {σ : Type} (Inv : σ → Nat → Prop) (pol lim : Nat) (M : Nat → Nat) (size : Nat)
    (upd : σ → Nat → Nat → R σ)
    (hU : ∀ s p l, Inv s p → p + l ≤ size → ∃ s', upd s p l = .ok s' ∧ Inv s' (p + l))
    (hA : ∀ s p p', Inv s p → p ≤ p' → (∀ q, p ≤ q → q < p' → ¬ Ins pol lim M q) → Inv s p')
    (s : σ) (p : Nat) (t : Token) (hInv : Inv s p) (ht : TokAt pol M size p t) :
    ∃ s', policyUpdateR pol lim (size - p) upd s p (tokenLen t) = .ok s' ∧ Inv s' (p + tokenLen t) := by
  rw [policyUpdateR_eq]
  generalize hl : tokenLen t = l
  have hfit : p + l ≤ size := hl ▸ ht.fit
  by_cases hall : l = 1 ∨ pol = 0 ∨ (pol = 1 ∨ pol = 2) ∧ l ≤ lim
  · rw [if_pos hall]
    exact hU s p l hInv hfit
  rw [if_neg hall]
  cases t with
  | lit b => exact absurd (.inl hl.symm) hall
  | ref len dist irr =>
    obtain rfl : len = l := hl
    obtain ⟨hl3, hl258, h4k⟩ := ht.ref len dist irr rfl
    have hM := ht.marks
    simp only [tokenLen] at hM
    rw [if_neg (fun h => h.2 (h4k h.1))]
    -- the first position is inserted; of the others at most the last
    have hq : ∀ q, p + 1 ≤ q → q < p + len → Ins pol lim M q →
        q = p + len - 1 ∧ (pol = 2 ∨ 4 ≤ pol ∧ Chains.is32kBoundary len p = true) := by
      intro q hq1 hq2 hIq
      obtain ⟨i, rfl⟩ : ∃ i, q = p + i := ⟨q - p, by omega⟩
      have hi : PolIns pol lim (M (p + i)) := hIq
      rw [hM i (by omega)] at hi
      rcases polIns_interior pol lim p len dist irr i hl3 hl258 (by omega) hi with h | ⟨h1, h2⟩
      · exact absurd (.inr h) hall
      · exact ⟨by omega, h2⟩
    obtain ⟨s1, e1, i1⟩ := hU s p 1 hInv (by omega)
    rw [e1, ok_bind]
    by_cases hlast : pol = 2 ∨ 4 ≤ pol ∧ Chains.is32kBoundary len p = true
    · rw [if_pos hlast, if_neg (by omega)]
      have i2 := hA s1 (p + 1) (p + len - 1) i1 (by omega) fun q hq1 hq2 hIq => by
        have := (hq q hq1 (by omega) hIq).1
        omega
      obtain ⟨s2, e2, i3⟩ := hU s1 (p + len - 1) 1 i2 (by omega)
      exact ⟨s2, e2, by rw [show p + len = p + len - 1 + 1 by omega]; exact i3⟩
    · rw [if_neg hlast]
      exact ⟨s1, rfl, hA s1 (p + 1) (p + len) i1 (by omega) fun q hq1 hq2 hIq => hlast (hq q hq1 hq2 hIq).2⟩

end Preflate.Proofs.EstTotal

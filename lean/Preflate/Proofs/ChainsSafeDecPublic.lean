import Preflate.Proofs.ChainsSafeDec
import Preflate.Proofs.ChainsSafePublic
namespace Preflate.Proofs
open Preflate Preflate.Chains

/-- On everything the parser returns, under the parameters the modelled estimator
    chooses, reconstruction from the corrections the analysis produced reaches none of the panic
    sites of the match finder / hash chains -/
theorem public_decStreamChk_ok (d : List UInt8) (pr : Parsed) (hp : parse d = .ok pr) (p : Params)
    (he : Est.estimate pr.plain pr.blocks = .ok p) (ops : List Op)
    (h : encStream (pred p) pr.plain pr.blocks pr.eofPadding = .ok ops) :
    decStreamChk p pr.plain ops = .ok () := by
  obtain ⟨hv, hpad⟩ := parse_valid_unbounded (bytesToBits d) pr hp
  have hsz := parse_plain_lt d pr hp
  exact decStreamChk_ok p pr.plain pr.blocks pr.eofPadding (estimate_in_range pr.plain pr.blocks p hv he)
    (estimate_lazyDepthOK' pr.plain pr.blocks p he) (by omega) hv hpad
    (estimate_noRefAt4k pr.plain pr.blocks p he) ops h

end Preflate.Proofs

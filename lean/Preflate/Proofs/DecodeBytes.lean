/-
BYTE-LEVEL END TO END: `recompress_deflate_stream(plain_text, prediction_corrections: &[u8])` as it
really runs (Model/DecodeBytes.lean: the reconstruction code pulls its values out of a
`PredictionDecoderCabac` over a `VP8Reader`, on demand) returns exactly the bytes the parser consumed,
for whatever `decompress_deflate_stream` returned.

The reconstruction code is generic in its operation source. At the list source it IS the list-level
reconstruction (DecodeBytesList); a relation between the states of two sources that the three pops
respect carries a successful run from one source to the other (DecodeBytesSim); the byte source over
the encoder's bytes is so related to the list of operations that were encoded (`OpsAt`, DecodeBytesRel).
Hence `bytes_of_ops`: what the list-level reconstruction reads, the byte-level one reads too; with the
list-level round trip this gives the theorems below.
-/
import Preflate.Proofs.DecodeBytesList
import Preflate.Proofs.DecodeBytesSim
import Preflate.Proofs.DecodeBytesRel
import Preflate.Proofs.EstimateRange
namespace Preflate.Proofs
open Preflate

variable {H : Type}

/-- what the list-level reconstruction reads from well-formed operations, the byte-level one reads from
    their encoding (given `byteSrc`'s block fuel 2^64 covers the blocks) -/
theorem bytes_of_ops (mk : Params → Pred H) (plain : Array Nat) (ops : List Op)
    (hwf : ∀ o ∈ ops, o.WF) (bytes : Array UInt8) (he : encodeBytes ops = .ok bytes)
    {rp : Params} {rest : List Op} (h1 : readParams ops = .ok (rp, rest))
    {blocks : List Block} {pad : Nat} {rest' : List Op}
    (h2 : decStream (mk rp) plain rest = .ok (blocks, pad, rest')) (hlen : blocks.length ≤ 2 ^ 64) :
    ∃ st st', readParamsS byteSrc (BSt.init bytes) = .ok (rp, st) ∧
      decStreamS byteSrc (mk rp) plain st = .ok (blocks, pad, st') ∧ OpsAt bytes rest' st' := by
  have hS := srcSim_list_byte bytes
  obtain ⟨⟨_, st⟩, e1, rfl, hr⟩ := readParamsS_sim hS (opsAt_init ops hwf bytes he) _ h1
  obtain ⟨st', e2, hr'⟩ := decStreamS_sim hS (mk rp) plain hr ((decStreamS_list ..).trans h2) fun _ => hlen
  exact ⟨st, st', e1, e2, hr'⟩

theorem analysis_facts (est : Array Nat → List Block → R Params) (mk : Params → Pred H)
    (hb : ∀ q, PredBounded (mk q)) (d : List UInt8) (hd : d.length < 2 ^ 61)
    (hest : ∀ p, parse d = .ok p → ∀ q, est p.plain p.blocks = .ok q → EstimatorRange q)
    (r : StreamResult) (h : decompressStream est mk false d = .ok r) :
    (∀ o ∈ r.corr, o.WF) ∧ ∃ rest blocks pad,
      readParams r.corr = .ok (r.params, rest) ∧
      decStream (mk r.params) r.plain rest = .ok (blocks, pad, []) ∧ blocks.length ≤ 2 ^ 64 ∧
      writeStream blocks pad = .ok (d.take r.size) := by
  have hwf := decompressStream_corr_wf hb hest h
  obtain ⟨p, params, hdr, body, h1, h2, h3, h4, rfl⟩ := decompressStream_ok h
  obtain ⟨hv, hpad⟩ := parse_valid_unbounded (bytesToBits d) p h1
  have hdec := decStream_encStream (mk params) p.plain p.blocks p.eofPadding hv hpad body h4 []
  rw [List.append_nil] at hdec
  have := parse_totals d p h1
  exact ⟨hwf, body, p.blocks, p.eofPadding,
    readParams_written params (estimatorRange_wf params (hest p h1 _ h2)) hdr h3 body,
    hdec, by omega, (write_parse d p h1).1⟩

theorem bytes_of_analysis (est : Array Nat → List Block → R Params) (mk : Params → Pred H)
    (hb : ∀ q, PredBounded (mk q)) (d : List UInt8) (hd : d.length < 2 ^ 61)
    (hest : ∀ p, parse d = .ok p → ∀ q, est p.plain p.blocks = .ok q → EstimatorRange q)
    {r : StreamResult} (h : decompressStream est mk false d = .ok r)
    {bytes : Array UInt8} (he : encodeBytes r.corr = .ok bytes) :
    ∃ st blocks pad st', readParamsS byteSrc (BSt.init bytes) = .ok (r.params, st) ∧
      decStreamS byteSrc (mk r.params) r.plain st = .ok (blocks, pad, st') ∧
      writeStream blocks pad = .ok (d.take r.size) := by
  obtain ⟨hwf, rest, blocks, pad, e1, e2, e3, e4⟩ := analysis_facts est mk hb d hd hest r h
  obtain ⟨st, st', f1, f2, -⟩ := bytes_of_ops mk r.plain r.corr hwf bytes he e1 e2 e3
  exact ⟨st, blocks, pad, st', f1, f2, e4⟩

theorem decompressBytes_ok {est : Array Nat → List Block → R Params} {mk : Params → Pred H}
    {verify : Bool} {d : List UInt8} {plain : Array Nat} {bytes : Array UInt8} {n : Nat} {q : Params}
    (h : decompressBytes est mk verify d = .ok (plain, bytes, n, q)) :
    ∃ r, decompressStream est mk false d = .ok r ∧ encodeBytes r.corr = .ok bytes ∧
      r.plain = plain ∧ r.size = n ∧ r.params = q ∧
      (verify = true → verifyBytes mk r.params r.plain bytes (d.take r.size) = .ok ()) := by
  unfold decompressBytes at h
  obtain ⟨r, h1, h⟩ := (bind_eq_ok ..).mp h
  obtain ⟨bytes', h2, h⟩ := (bind_eq_ok ..).mp h
  cases verify with
  | false =>
    cases h
    exact ⟨r, h1, h2, rfl, rfl, rfl, nofun⟩
  | true =>
    rw [if_pos rfl] at h
    obtain ⟨⟨⟩, h3, h⟩ := (bind_eq_ok ..).mp h
    cases h
    exact ⟨r, h1, h2, rfl, rfl, rfl, fun _ => h3⟩

/-- For any estimator (in range on the parser's output for this input) and any
    bounded predictor family: whenever the model of `decompress_deflate_stream(D, verify)` returns
    Ok(plain_text, prediction_corrections, compressed_size, parameters) — either verify setting, input
    below 2^61 bytes — the model of
    `recompress_deflate_stream(plain_text, prediction_corrections)`, which pulls every value out of the
    VP8 reader over the correction BYTES as the reconstruction asks for it, returns exactly
    D[..compressed_size]. -/
theorem recompressBytes_decompressBytes (est : Array Nat → List Block → R Params) (mk : Params → Pred H)
    (hb : ∀ q, PredBounded (mk q)) (verify : Bool) (d : List UInt8)
    (hest : ∀ p, parse d = .ok p → ∀ q, est p.plain p.blocks = .ok q → EstimatorRange q)
    (plain : Array Nat) (bytes : Array UInt8) (n : Nat) (q : Params)
    (h : decompressBytes est mk verify d = .ok (plain, bytes, n, q))
    (hd : d.length < 2 ^ 61) :
    recompressBytes mk plain bytes = .ok (d.take n) := by
  obtain ⟨r, h1, h2, rfl, rfl, rfl, -⟩ := decompressBytes_ok h
  obtain ⟨st, blocks, pad, st', e1, e2, e3⟩ := bytes_of_analysis est mk hb d hd hest h1 h2
  rw [recompressBytes, recompressBytesWithin, ← byteSrc]
  simp only [e1, e2, e3, ok_bind]

/-- the byte-level verify block passes whenever the analysis succeeded: both verify settings of
    `decompressBytes` are the same function -/
theorem decompressBytes_verify_same (est : Array Nat → List Block → R Params) (mk : Params → Pred H)
    (hb : ∀ q, PredBounded (mk q)) (d : List UInt8) (hd : d.length < 2 ^ 61)
    (hest : ∀ p, parse d = .ok p → ∀ q, est p.plain p.blocks = .ok q → EstimatorRange q) :
    decompressBytes est mk true d = decompressBytes est mk false d :=
  bind_congr_ok fun r h1 => bind_congr_ok fun bytes h2 => by
    obtain ⟨st, blocks, pad, st', e1, e2, e3⟩ := bytes_of_analysis est mk hb d hd hest h1 h2
    simp only [verifyBytes, e1, e2, e3, ok_bind, ne_eq, not_true_eq_false, if_false, if_true,
      Bool.false_eq_true]

/-- `decompressBytes` (verification from the BYTES) = `decompressStream` (verification from the
    operations) followed by `encodeBytes`, with the same verify setting -/
theorem decompressBytes_eq_stream (est : Array Nat → List Block → R Params) (mk : Params → Pred H)
    (hb : ∀ q, PredBounded (mk q)) (verify : Bool) (d : List UInt8) (hd : d.length < 2 ^ 61)
    (hest : ∀ p, parse d = .ok p → ∀ q, est p.plain p.blocks = .ok q → EstimatorRange q) :
    decompressBytes est mk verify d = (do
      let r ← decompressStream est mk verify d
      let bytes ← encodeBytes r.corr
      .ok (r.plain, bytes, r.size, r.params)) := by
  cases verify
  · rfl
  · rw [decompressBytes_verify_same est mk hb d hd hest, verify_same_at est mk d hest]
    rfl

theorem decompressBytes_iff_stream (est : Array Nat → List Block → R Params) (mk : Params → Pred H)
    (hb : ∀ q, PredBounded (mk q)) (verify : Bool) (d : List UInt8) (hd : d.length < 2 ^ 61)
    (hest : ∀ p, parse d = .ok p → ∀ q, est p.plain p.blocks = .ok q → EstimatorRange q)
    (plain : Array Nat) (bytes : Array UInt8) (n : Nat) (q : Params) :
    decompressBytes est mk verify d = .ok (plain, bytes, n, q) ↔
    ∃ r, decompressStream est mk verify d = .ok r ∧ encodeBytes r.corr = .ok bytes ∧
      r.plain = plain ∧ r.size = n ∧ r.params = q := by
  rw [decompressBytes_eq_stream est mk hb verify d hd hest]
  simp only [bind_eq_ok, Except.ok.injEq, Prod.mk.injEq]
  constructor
  · rintro ⟨r, h1, _, h2, rfl, rfl, rfl, rfl⟩
    exact ⟨r, h1, h2, rfl, rfl, rfl⟩
  · rintro ⟨r, h1, h2, rfl, rfl, rfl⟩
    exact ⟨r, h1, _, h2, rfl, rfl, rfl, rfl⟩

theorem decodeOpsBytes_encodeBytes (ops : List Op) (hwf : ∀ o ∈ ops, o.WF) (bytes : Array UInt8)
    (he : encodeBytes ops = .ok bytes) :
    ∃ s', decodeOpsBytes (ops.map Op.kind) (BSt.init bytes) = .ok (ops, s') ∧ s'.dc = 0 := by
  obtain ⟨s', e1, e2⟩ := decodeOpsBytes_rel bytes ops _ (opsAt_init ops hwf bytes he)
  exact ⟨s', e1, e2.2.1⟩

-- no decoder below `decStreamS` reads `blockFuel`, so both sides unfold to the same term
-- (smart unfolding would keep the recursive decoders folded)
set_option smartUnfolding false in
theorem decBlocksS_within (n m : Nat) (P : Pred H) (plain : Array Nat) (fuel : Nat) (s : PState H)
    (a : BSt) :
    decBlocksS (byteSrcWithin n) P plain fuel s a = decBlocksS (byteSrcWithin m) P plain fuel s a := rfl

theorem decStreamS_within {n m : Nat} (hnm : n ≤ m) (P : Pred H) (plain : Array Nat) (a : BSt) :
    FuelLe (decStreamS (byteSrcWithin n) P plain a) (decStreamS (byteSrcWithin m) P plain a) := by
  refine .bind .rfl fun (isEof, a1) => .bind ?_ fun _ => .rfl
  cases isEof
  · exact .bind (decBlocksS_within m n .. ▸ decBlocksS_mono P plain _ a1 hnm) fun _ => .rfl
  · exact .rfl

theorem recompressBytesWithin_mono {n m : Nat} (hnm : n ≤ m) (mk : Params → Pred H) (plain : Array Nat)
    (bytes : Array UInt8) :
    FuelLe (recompressBytesWithin n mk plain bytes) (recompressBytesWithin m mk plain bytes) :=
  .bind .rfl fun (rp, st) => .bind (decStreamS_within hnm (mk rp) plain st) fun _ => .rfl

/-- the budgeted run the driver executes IS `recompressBytes` whenever it answers (Ok, Err or panic —
    anything but "out of fuel") -/
theorem recompressBytesWithin_eq (n : Nat) (hn : n ≤ 2 ^ 64) (mk : Params → Pred H) (plain : Array Nat)
    (bytes : Array UInt8) (h : recompressBytesWithin n mk plain bytes ≠ .error .fuel) :
    recompressBytes mk plain bytes = recompressBytesWithin n mk plain bytes :=
  recompressBytesWithin_mono hn mk plain bytes h

/-- the modelled estimator `Est.estimate` and the executable predictor family `Chains.pred`;
    no hypothesis left on either -/
theorem public_bytes_exact (verify : Bool) (d : List UInt8)
    (plain : Array Nat) (bytes : Array UInt8) (n : Nat) (q : Params)
    (h : decompressBytes Est.estimate Chains.pred verify d = .ok (plain, bytes, n, q))
    (hd : d.length < 2 ^ 61) :
    recompressBytes Chains.pred plain bytes = .ok (d.take n) :=
  recompressBytes_decompressBytes Est.estimate Chains.pred chains_pred_bounded verify d
    (estimate_in_range_parsed d) plain bytes n q h hd

theorem public_bytes_verify_same (d : List UInt8) (hd : d.length < 2 ^ 61)
    (plain : Array Nat) (bytes : Array UInt8) (n : Nat) (q : Params) :
    decompressBytes Est.estimate Chains.pred true d = .ok (plain, bytes, n, q) ↔
    decompressBytes Est.estimate Chains.pred false d = .ok (plain, bytes, n, q) := by
  rw [decompressBytes_verify_same Est.estimate Chains.pred chains_pred_bounded d hd
    (estimate_in_range_parsed d)]

end Preflate.Proofs

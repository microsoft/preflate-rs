/- C03: the model parser over the generated tables equals the RFC-table transcription. -/
import Preflate.Model.Spec
import Preflate.Proofs.Tables
namespace Preflate.Proofs
open Preflate

theorem spec_order_eq : Spec.codeLengthOrder = Gen.TREE_CODE_ORDER_TABLE := by decide

theorem spec_fixedLit_eq : Spec.fixedLitLengths = fixedLitLengths := by decide +kernel
theorem spec_fixedDist_eq : Spec.fixedDistLengths = fixedDistLengths := rfl

theorem spec_length_eq : ∀ c, c < 29 →
    lengthBase c = Spec.lengthBase c ∧ lengthExtra c = Spec.lengthExtra c := by
  decide +kernel

theorem spec_dist_eq : ∀ c, c < 30 →
    distBase c = Spec.distBase c ∧ distExtra c = Spec.distExtra c := by
  decide +kernel

theorem spec_plainLimit_eq : Spec.implPlainLimit = PLAIN_LIMIT := rfl

theorem spec_readCodeLengths_eq : ∀ (n i : Nat) (acc : List Nat) (bs : Bits),
    Spec.readCodeLengths n i acc bs = readCodeLengths n i acc bs := by
  intro n
  induction n with
  | zero => intros; rfl
  | succ n ih =>
    intro i acc bs
    simp only [Spec.readCodeLengths, readCodeLengths, spec_order_eq, ih]

theorem spec_readHeader_eq (bs : Bits) : Spec.readHeader bs = readHeader bs := by
  simp only [Spec.readHeader, readHeader, spec_readCodeLengths_eq]

/-- The two loops differ in how the constants are spelt and in where lengths and distances come
    from (tables or formulas), which agree on the codes that pass the two range checks. -/
theorem spec_decodeTokens_eq (lt dt : List (Bits × Nat)) : ∀ (fuel : Nat) (plain : Array Nat) (bs : Bits),
    Spec.decodeTokens lt dt fuel plain bs = decodeTokens lt dt fuel plain bs := by
  intro fuel
  induction fuel with
  | zero => exact fun _ _ => rfl
  | succ fuel ih =>
    intro plain bs
    rw [Spec.decodeTokens, decodeTokens]
    refine ite_congr rfl (fun _ => rfl) fun _ => bind_congr fun ⟨sym, bs1⟩ => ?_
    dsimp only
    refine ite_congr rfl (fun _ => by rw [ih]) fun _ => ite_congr rfl (fun _ => rfl) fun _ => ?_
    by_cases hl : sym - 257 ≥ 29
    · rw [if_pos hl, if_pos (show sym - Gen.NONLEN_CODE_COUNT ≥ Gen.LEN_CODE_COUNT from hl),
        throw_bind, throw_bind]
    rw [if_neg hl, if_neg (show ¬ sym - Gen.NONLEN_CODE_COUNT ≥ Gen.LEN_CODE_COUNT from hl)]
    obtain ⟨hb, he⟩ := spec_length_eq (sym - 257) (Nat.lt_of_not_ge hl)
    rw [← hb, ← he]
    refine bind_congr fun ⟨ex, bs2⟩ => bind_congr fun ⟨dcode, bs3⟩ => ?_
    dsimp only
    by_cases hd : dcode ≥ 30
    · rw [if_pos hd, if_pos (show dcode ≥ Gen.DIST_CODE_COUNT from hd), throw_bind, throw_bind]
    rw [if_neg hd, if_neg (show ¬ dcode ≥ Gen.DIST_CODE_COUNT from hd)]
    obtain ⟨hb', he'⟩ := spec_dist_eq dcode (Nat.lt_of_not_ge hd)
    rw [← hb', ← he']
    simp only [ih]
    rfl

theorem spec_readBlock_eq (plain : Array Nat) (bs : Bits) : Spec.readBlock plain bs = readBlock plain bs := by
  simp only [Spec.readBlock, readBlock, spec_readHeader_eq, spec_decodeTokens_eq, spec_fixedLit_eq,
    spec_fixedDist_eq, spec_plainLimit_eq]
  rfl

theorem spec_readBlocks_eq : ∀ (fuel : Nat) (plain : Array Nat) (bs : Bits),
    Spec.readBlocks fuel plain bs = readBlocks fuel plain bs := by
  intro fuel
  induction fuel with
  | zero => intros; rfl
  | succ fuel ih =>
    intro plain bs
    simp only [Spec.readBlocks, readBlocks, spec_readBlock_eq, ih]

theorem parseBits_eq_spec (bs : Bits) : parseBits bs = Spec.parseBits bs := by
  simp only [Spec.parseBits, parseBits, spec_readBlocks_eq]

end Preflate.Proofs

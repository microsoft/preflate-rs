/-
SIZE OF THE CORRECTION DATA, in a coarse form: the NUMBER of operations `encStream` emits for
a valid stream, for ANY predictor:

    ops.length ≤ 4 * totalTokens blocks + 668 * blocks.length + 2

(a token: flag, length correction, distance correction, irregular-258 flag; a block: EOF flag, type,
token count, and for a dynamic header 2 + 2 + 2 for the three counts, 2 per run-length item — at most
320 items — and one per code-length code length — at most 19; the stream end: 2).

Not used by the composition (`corr_size_le` goes through the finer `encStream_cost`, which weighs the
operations of a dynamic header against the bits that header occupied in the input; the count form would
cost a factor of about 668 · 63 per block).
-/
import Preflate.Proofs.CorrBoundPredict
namespace Preflate.Proofs
open Preflate Gen

variable {H : Type} {L LB : Nat → Prop}

theorem TokOps.count {t : Token} {ops : List Op} (h : TokOps L t ops) : ops.length ≤ 4 := by
  cases h with
  | lit => simp
  | ref =>
    simp only [List.length_append, List.length_cons, List.length_nil]
    split <;> simp

theorem ItemOps.count {it : RleItem} {ops : List Op} (h : ItemOps LB it ops) : ops.length = 2 := by
  obtain ⟨_, _, _, _, _, _, rfl⟩ := h
  rfl

theorem encTcLengths_length (tc cl : List Nat) : ∀ (n i : Nat), (encTcLengths tc cl n i).length = n := by
  intro n
  induction n with
  | zero => intro i; simp [encTcLengths]
  | succ n ih => intro i; simp [encTcLengths, ih]

theorem items_length_le_span : ∀ (items : List RleItem), (∀ it ∈ items, Tree.ItemOk it) →
    items.length ≤ (items.map itemSpan).sum := by
  intro items
  induction items with
  | nil => intro _; simp
  | cons it rest ih =>
    intro h
    have h1 := Tree.itemSpan_pos it (h it (List.mem_cons_self ..))
    have h2 := ih (fun it' h' => h it' (List.mem_cons_of_mem _ h'))
    simp only [List.length_cons, List.map_cons, List.sum_cons]
    omega

theorem CountOps.count {ctx bits v : Nat} {ops : List Op} (h : CountOps ctx bits v ops) : ops.length ≤ 2 := by
  rcases h with rfl | rfl <;> simp

/-- at most 320 run-length items (every item spans at least one of the ≤ 320 code lengths), 19 code-length
    code lengths, and the three counts -/
theorem TreeOps.count {h : Header} {ops : List Op} (ho : TreeOps LB h ops) (hv : HeaderValid h) :
    ops.length ≤ 665 := by
  obtain ⟨a, b, c, d, tc, rfl, ha, hb, hc, hd, _⟩ := ho
  have := ha.count
  have := hb.count
  have := hc.measure_le List.length_nil (fun _ _ => List.length_append) 0 2 (fun _ => 0)
    fun _ _ _ h => Nat.le_trans (Nat.le_of_eq h.count) (Nat.le_add_left ..)
  have := hd.count
  have := items_length_le_span h.items hv.items_kind
  have := hv.items_sum
  have := hv.lit_hi
  have := hv.dist_hi
  have := hv.cl_hi
  simp only [List.length_append, encTcLengths_length]
  omega

theorem TokBlockOps.count {btn : Nat} {ts : List Token} {T : List Op → Prop} {ops : List Op} {K : Nat}
    (h : TokBlockOps L btn ts T ops) (hT : ∀ tree, T tree → tree.length ≤ K) :
    ops.length ≤ 2 + 4 * ts.length + K := by
  obtain ⟨tc, toks, tree, rfl, _, htoks, htree⟩ := h
  have := htoks.measure_le List.length_nil (fun _ _ => List.length_append) 0 4 (fun _ => 0)
    fun _ _ _ h => Nat.le_trans h.count (Nat.le_add_left ..)
  have := hT _ htree
  simp only [List.length_cons, List.length_append]
  omega

theorem BlockOps.count {b : Block} {ops : List Op} (h : BlockOps L LB b ops) (hv : BlockSmall b) :
    ops.length ≤ 4 * (blockTokens b).length + 667 := by
  cases b with
  | stored pad data =>
    subst h
    simp
  | fixed ts =>
    have := TokBlockOps.count h (K := 0) (fun _ e => by rw [e]; simp)
    simp only [blockTokens]
    omega
  | dynamic hd ts =>
    have := TokBlockOps.count h (fun _ ht => ht.count hv.2.2)
    simp only [blockTokens]
    omega

theorem StreamOps.count {blocks : List Block} {pad : Nat} {ops : List Op}
    (h : StreamOps L LB blocks pad ops) (hv : ∀ b ∈ blocks, BlockSmall b) :
    ops.length ≤ 4 * totalTokens blocks + 668 * blocks.length + 2 := by
  obtain ⟨bops, hb, rfl⟩ := h
  have : bops.length ≤ 4 * totalTokens blocks + 668 * blocks.length := by
    refine hb.measure_le List.length_nil (fun _ _ => List.length_append) 4 668
      (fun b => (blockTokens b).length) ?_
    rintro b hb _ ⟨f, a, ha, rfl⟩
    have := ha.count (hv b hb)
    have : (if f then [Op.mis M_EOF true] else []).length ≤ 1 := by
      cases f <;> simp
    rw [List.length_append]
    omega
  simp only [List.length_append, List.length_cons, List.length_nil]
  omega

theorem encStream_ops_count_le (P : Pred H) (plain : Array Nat) (blocks : List Block) (pad : Nat)
    (hv : StreamValid plain blocks) (ops : List Op) (he : encStream P plain blocks pad = .ok ops) :
    ops.length ≤ 4 * totalTokens blocks + 668 * blocks.length + 2 :=
  (encStream_ops (LB := fun _ => True) P plain (PredL.any P) blocks
    (fun _ => LenL.any P) pad hv ops he).count
    (blocksSmall_of_valid plain blocks 0 hv.2.1)

end Preflate.Proofs

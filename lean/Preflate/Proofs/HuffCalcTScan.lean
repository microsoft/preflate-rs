/-
The first loop of `calc_bit_lengths` (`scan`): the leaves it creates and `max_code`.
-/
import Preflate.Proofs.HuffCalcTBase
namespace Preflate.HuffCalcT

/-- the leaves pushed by `scan` -/
def scanList : List Nat → Nat → List Node
  | [], _ => []
  | f :: rest, idx =>
    if f > 0 then { freq := f, depth := 0, leaf := some idx } :: scanList rest (idx + 1)
    else scanList rest (idx + 1)

/-- `max_code` after the first loop -/
def scanMax : List Nat → Nat → Nat → Nat
  | [], _, mc => mc
  | f :: rest, idx, mc => if f > 0 then scanMax rest (idx + 1) idx else scanMax rest (idx + 1) mc

theorem scan_eq (l : List Nat) (idx : Nat) (heap : Array Node) (mc : Nat) :
    scan l idx heap mc = (heap ++ (scanList l idx).toArray, scanMax l idx mc) := by
  induction l generalizing idx heap mc with
  | nil => simp [scan, scanList, scanMax]
  | cons f rest ih =>
    by_cases h : f > 0
    · simp [scan, scanList, scanMax, h, ih]
    · simp [scan, scanList, scanMax, h, ih]

/-- index of the last non-zero frequency (`0` if there is none): Rust `max_code` -/
def maxCode (symFreq : List Nat) : Nat := scanMax symFreq 0 0

/-- the initial heap (all leaves, in index order) -/
def leaves0 (symFreq : List Nat) : List Node := scanList symFreq 0

theorem scan_zero (symFreq : List Nat) :
    scan symFreq 0 #[] 0 = ((leaves0 symFreq).toArray, maxCode symFreq) := by
  simp [scan_eq, leaves0, maxCode]

theorem scanList_mem (l : List Nat) (idx : Nat) (x : Node) (hx : x ∈ scanList l idx) :
    x.depth = 0 ∧ 1 ≤ x.freq ∧ ∃ s, x.leaf = some s ∧ idx ≤ s := by
  induction l generalizing idx with
  | nil => simp [scanList] at hx
  | cons f rest ih =>
    simp only [scanList] at hx
    split at hx
    · rcases List.mem_cons.mp hx with rfl | hx
      · exact ⟨rfl, ‹f > 0›, idx, rfl, Nat.le_refl _⟩
      · obtain ⟨h1, h2, s, h3, h4⟩ := ih _ hx
        exact ⟨h1, h2, s, h3, Nat.le_of_succ_le h4⟩
    · obtain ⟨h1, h2, s, h3, h4⟩ := ih _ hx
      exact ⟨h1, h2, s, h3, Nat.le_of_succ_le h4⟩

theorem scanList_syms_lb (l : List Nat) (idx : Nat) :
    ∀ s ∈ (scanList l idx).filterMap (·.leaf), idx ≤ s := by
  intro s hs
  obtain ⟨x, hx, hxs⟩ := List.mem_filterMap.mp hs
  obtain ⟨_, _, s', h4, h5⟩ := scanList_mem l idx x hx
  rw [h4] at hxs; cases hxs; exact h5

theorem scanList_nodup (l : List Nat) (idx : Nat) :
    ((scanList l idx).filterMap (·.leaf)).Nodup := by
  induction l generalizing idx with
  | nil => simp [scanList]
  | cons f rest ih =>
    simp only [scanList]
    split
    · simp only [List.filterMap_cons, List.nodup_cons]
      refine ⟨fun h => ?_, ih _⟩
      have := scanList_syms_lb rest (idx + 1) idx h
      omega
    · exact ih _

theorem scanList_length (l : List Nat) (idx : Nat) :
    (scanList l idx).length = (l.filter (fun f => decide (0 < f))).length := by
  induction l generalizing idx with
  | nil => simp [scanList]
  | cons f rest ih =>
    simp only [scanList]
    by_cases h : f > 0
    · simp [h, ih]
    · simp [h, ih]

theorem scanList_length_le (l : List Nat) (idx : Nat) : (scanList l idx).length ≤ l.length := by
  rw [scanList_length]; exact List.length_filter_le _ _

theorem scanList_sum (l : List Nat) (idx : Nat) (B : Nat) (hB : ∀ f ∈ l, f ≤ B) :
    ((scanList l idx).map (·.freq)).sum ≤ B * l.length := by
  induction l generalizing idx with
  | nil => simp [scanList]
  | cons f rest ih =>
    have := ih (idx + 1) (fun g hg => hB g (List.mem_cons_of_mem _ hg))
    have hf := hB f (by simp)
    simp only [scanList]
    split
    · simp only [List.map_cons, List.sum_cons, List.length_cons, Nat.mul_add]; omega
    · simp only [List.length_cons, Nat.mul_add]; omega

theorem scanList_syms_length (l : List Nat) (idx : Nat) :
    ((scanList l idx).filterMap (·.leaf)).length = (scanList l idx).length := by
  induction l generalizing idx with
  | nil => rfl
  | cons f rest ih =>
    simp only [scanList]
    split
    · simp [ih]
    · exact ih _

theorem scanMax_cons (f : Nat) (rest : List Nat) (idx mc : Nat) :
    scanMax (f :: rest) idx mc = scanMax rest (idx + 1) (if f > 0 then idx else mc) := by
  rw [scanMax]; split <;> rfl

theorem scanMax_spec (l : List Nat) (idx mc : Nat) :
    (scanMax l idx mc = mc ∧ ∀ f ∈ l, f = 0) ∨
    (idx ≤ scanMax l idx mc ∧ scanMax l idx mc < idx + l.length ∧
      0 < l.getD (scanMax l idx mc - idx) 0 ∧
      ∀ j, scanMax l idx mc - idx < j → l.getD j 0 = 0) := by
  induction l generalizing idx mc with
  | nil => left; simp [scanMax]
  | cons f rest ih =>
    rw [scanMax_cons]
    rcases ih (idx + 1) (if f > 0 then idx else mc) with ⟨h1, h2⟩ | ⟨h1, h2, h3, h4⟩
    · rw [h1]
      by_cases hf : f > 0
      · rw [if_pos hf]
        refine .inr ⟨Nat.le_refl _, by simp, by simpa using hf, fun j hj => ?_⟩
        obtain ⟨j, rfl⟩ : ∃ k, j = k + 1 := ⟨j - 1, by omega⟩
        rw [List.getD_cons_succ, List.getD_eq_getElem?_getD]
        cases hr : rest[j]? with
        | none => rfl
        | some v => exact h2 v (List.mem_of_getElem? hr)
      · rw [if_neg hf]
        exact .inl ⟨rfl, fun g hg => (List.mem_cons.mp hg).elim (fun e => by omega) (h2 g)⟩
    · generalize scanMax rest (idx + 1) (if f > 0 then idx else mc) = r at *
      refine .inr ⟨by omega, by simp; omega, ?_, fun j hj => ?_⟩
      · rwa [show r - idx = r - (idx + 1) + 1 by omega, List.getD_cons_succ]
      · obtain ⟨j, rfl⟩ : ∃ k, j = k + 1 := ⟨j - 1, by omega⟩
        rw [List.getD_cons_succ]
        exact h4 j (by omega)

theorem scanList_le_scanMax (l : List Nat) (idx mc : Nat) :
    ∀ s ∈ (scanList l idx).filterMap (·.leaf), s ≤ scanMax l idx mc := by
  induction l generalizing idx mc with
  | nil => simp [scanList]
  | cons f rest ih =>
    intro s hs
    rw [scanMax_cons]
    simp only [scanList] at hs
    split at hs
    · rcases List.mem_cons.mp hs with rfl | hs
      · rename_i hf
        rw [if_pos hf]
        rcases scanMax_spec rest (s + 1) s with ⟨e, _⟩ | ⟨h, _⟩ <;> omega
      · exact ih _ _ s hs
    · exact ih _ _ s hs

theorem maxCode_spec (symFreq : List Nat) :
    (maxCode symFreq = 0 ∧ ∀ f ∈ symFreq, f = 0) ∨
    (maxCode symFreq < symFreq.length ∧ 0 < symFreq.getD (maxCode symFreq) 0 ∧
      ∀ j, maxCode symFreq < j → symFreq.getD j 0 = 0) := by
  rcases scanMax_spec symFreq 0 0 with h | ⟨_, h2, h3, h4⟩
  · exact .inl h
  · exact .inr ⟨by simpa [maxCode] using h2, by simpa [maxCode] using h3, by simpa [maxCode] using h4⟩

theorem maxCode_lt (symFreq : List Nat) (h : symFreq ≠ []) : maxCode symFreq < symFreq.length := by
  rcases maxCode_spec symFreq with ⟨h1, _⟩ | ⟨h1, _⟩
  · rw [h1]; exact List.length_pos_iff.mpr h
  · exact h1

end Preflate.HuffCalcT

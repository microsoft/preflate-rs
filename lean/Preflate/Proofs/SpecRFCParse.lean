/-
C03 (RFC reading): from the tables of a dynamic header to whole streams.
Whenever the model parser and `SpecRFC.parseBits` both accept, they return the same `Parsed`.
-/
import Preflate.Proofs.SpecRFCHeader
import Preflate.Proofs.SpecEq
import Preflate.Proofs.ExpandsHeader
namespace Preflate.Proofs.RFC
open Preflate SpecRFC Preflate.Proofs

theorem readHeader_rep {bs : Bits} {hd : Header} {rest : Bits} (h : readHeader bs = .ok (hd, rest)) :
    ∀ it ∈ hd.items, it.kind = 16 → 3 ≤ it.data := by
  intro it hit hk
  rcases (readHeader_valid h).items_kind it hit with h0 | h16 | h17 | h18
  · omega
  · exact h16.2.1
  · omega
  · omega

theorem decodeTokens_sub {lt dt1 dt2 : List (Bits × Nat)} (hs : SubTable dt1 dt2) {fuel : Nat}
    {plain : Array Nat} {bs : Bits} {ts : List Token} {plain' : Array Nat} {rest : Bits}
    (h : decodeTokens lt dt1 fuel plain bs = .ok (ts, plain', rest)) :
    decodeTokens lt dt2 fuel plain bs = .ok (ts, plain', rest) :=
  decodeTokens_induct (motive := fun fuel plain bs ts plain' rest =>
      decodeTokens lt dt2 fuel plain bs = .ok (ts, plain', rest))
    (fun _ _ _ _ hlim h1 => decodeTokens_eob hlim h1)
    (fun _ _ _ _ _ _ _ _ hlim h1 hlit ih => decodeTokens_lit hlim h1 hlit ih)
    (fun _ _ _ _ _ _ _ _ _ _ _ _ _ _ hlim h1 hlc h2 h3 hdc h4 hdist ih =>
      decodeTokens_ref hlim h1 hlc h2 (hs _ _ h3) hdc h4 hdist ih) h

/-- zlib's single-symbol literal/length code {256 : 1}: the block is the bit `0` -/
theorem decodeTokens_eob_rfc {dt : List (Bits × Nat)} {fuel : Nat} {plain : Array Nat} {bs : Bits}
    {ts : List Token} {plain' : Array Nat} {rest : Bits}
    (h : decodeTokens [([false], 256)] dt fuel plain bs = .ok (ts, plain', rest)) :
    plain.size ≤ PLAIN_LIMIT ∧ bs = false :: rest ∧ ts = [] ∧ plain' = plain := by
  refine decodeTokens_induct (motive := fun _ plain bs ts plain' rest =>
    plain.size ≤ PLAIN_LIMIT ∧ bs = false :: rest ∧ ts = [] ∧ plain' = plain) ?_ ?_ ?_ h
  · intro _ _ _ _ hlim h1
    obtain ⟨_, rfl, e⟩ := decodeSym_single h1
    cases e
    exact ⟨hlim, rfl, rfl, rfl⟩
  · intro _ _ _ _ _ _ _ _ _ h1 hlit _
    obtain ⟨_, _, e⟩ := decodeSym_single h1
    cases e
    exact absurd hlit (Nat.lt_irrefl _)
  · intro _ _ _ lc _ _ _ _ _ _ _ _ _ _ _ h1
    obtain ⟨_, _, e⟩ := decodeSym_single h1
    have := (Prod.mk.inj e).1
    omega

theorem optR_ok {α : Type} {o : Option α} {a : α} (h : optR o = .ok a) : o = some a := by
  cases o with
  | none => cases h
  | some b => exact congrArg some (Except.ok.inj h)

theorem rfc_readBlock_eq_of_mode (plain : Array Nat) (bs : Bits)
    (hm : ∀ l bs1 m bs2, readBits 1 bs = .ok (l, bs1) → readBits 2 bs1 = .ok (m, bs2) → m ≠ 2) :
    SpecRFC.readBlock plain bs = readBlock plain bs := by
  rw [SpecRFC.readBlock, readBlock]
  simp only [spec_readHeader_eq, spec_decodeTokens_eq, spec_fixedLit_eq, spec_fixedDist_eq,
    spec_plainLimit_eq]
  cases h1 : readBits 1 bs with
  | error e => rfl
  | ok p1 =>
    obtain ⟨l, bs1⟩ := p1
    simp only [ok_bind]
    cases h2 : readBits 2 bs1 with
    | error e => rfl
    | ok p2 =>
      obtain ⟨m, bs2⟩ := p2
      have := hm l bs1 m bs2 h1 h2
      simp only [ok_bind, this, if_false]
      rfl

theorem rfc_readBlock_cases (plain : Array Nat) (bs : Bits) :
    SpecRFC.readBlock plain bs = readBlock plain bs ∨
    ∃ l bs1 bs2, readBits 1 bs = .ok (l, bs1) ∧ readBits 2 bs1 = .ok (2, bs2) := by
  by_cases h : ∃ l bs1 bs2, readBits 1 bs = .ok (l, bs1) ∧ readBits 2 bs1 = .ok (2, bs2)
  · exact .inr h
  · exact .inl (rfc_readBlock_eq_of_mode plain bs fun l bs1 m bs2 h1 h2 hm =>
      h ⟨l, bs1, bs2, h1, hm ▸ h2⟩)

theorem readBlock_dynamic {plain : Array Nat} {bs bs1 bs2 : Bits} {l : Nat}
    (h1 : readBits 1 bs = .ok (l, bs1)) (h2 : readBits 2 bs1 = .ok (2, bs2))
    {last : Bool} {b : Block} {plain' : Array Nat} {rest : Bits} :
    readBlock plain bs = .ok (last, b, plain', rest) ↔
    ∃ hd bs3 ts, readHeader bs2 = .ok (hd, bs3) ∧
      hd.numLiterals ≤ (expandItems hd.items 0).length ∧
      validLengths (litLens hd) = true ∧ validLengths (distLens hd) = true ∧
      decodeTokens (codeTable (litLens hd)) (codeTable (distLens hd)) (bs3.length + 1) plain bs3 =
        .ok (ts, plain', rest) ∧
      last = (l == 1) ∧ b = .dynamic hd ts := by
  constructor
  · intro h
    obtain ⟨_, _, _, _, e1, e2, rfl, hb⟩ := readBlock_eq_ok.mp h
    cases h1.symm.trans e1
    cases h2.symm.trans e2
    cases hb with
    | dynamic h3 h4 hvl hvd h7 =>
      obtain ⟨hlen, rfl, rfl⟩ := litDistLengths_eq_ok.mp h4
      exact ⟨_, _, _, h3, hlen, hvl, hvd, h7, rfl, rfl⟩
  · rintro ⟨hd, bs3, ts, h3, hlen, hvl, hvd, h7, rfl, rfl⟩
    exact readBlock_eq_ok.mpr ⟨_, _, _, _, h1, h2, rfl,
      .dynamic h3 (litDistLengths_eq_ok.mpr ⟨hlen, rfl, rfl⟩) hvl hvd h7⟩

theorem rfc_readBlock_dynamic {plain : Array Nat} {bs bs1 bs2 : Bits} {l : Nat}
    (h1 : readBits 1 bs = .ok (l, bs1)) (h2 : readBits 2 bs1 = .ok (2, bs2))
    {last : Bool} {b : Block} {plain' : Array Nat} {rest : Bits} :
    SpecRFC.readBlock plain bs = .ok (last, b, plain', rest) ↔
    ∃ hd bs3 R lt dt ts, readHeader bs2 = .ok (hd, bs3) ∧ expandRFC hd.items = some R ∧
      hd.numLiterals ≤ R.length ∧ tableFor false (R.take hd.numLiterals) = some lt ∧
      tableFor true (R.drop hd.numLiterals) = some dt ∧
      decodeTokens lt dt (bs3.length + 1) plain bs3 = .ok (ts, plain', rest) ∧
      last = (l == 1) ∧ b = .dynamic hd ts := by
  rw [SpecRFC.readBlock]
  simp only [spec_readHeader_eq, spec_decodeTokens_eq, h1, h2, ok_bind,
    if_neg (show ¬ 2 = 0 by decide), if_neg (show ¬ 2 = 1 by decide), if_true]
  constructor
  · intro h
    obtain ⟨⟨hd, bs3⟩, h3, h⟩ := (bind_eq_ok ..).mp h
    obtain ⟨⟨ll, dl⟩, h4, h⟩ := (bind_eq_ok ..).mp h
    obtain ⟨lt, h5, h⟩ := (bind_eq_ok ..).mp h
    obtain ⟨dt, h6, h⟩ := (bind_eq_ok ..).mp h
    obtain ⟨⟨ts, pl, bs4⟩, h7, h⟩ := (bind_eq_ok ..).mp h
    cases h
    obtain ⟨R, hR, h4⟩ := (bind_eq_ok ..).mp h4
    by_cases hlen : hd.numLiterals ≤ R.length
    · rw [if_pos hlen] at h4
      cases h4
      exact ⟨hd, bs3, R, lt, dt, ts, h3, optR_ok hR, hlen, optR_ok h5, optR_ok h6, h7, rfl, rfl⟩
    · rw [if_neg hlen] at h4
      cases h4
  · rintro ⟨hd, bs3, R, lt, dt, ts, h3, hR, hlen, h5, h6, h7, rfl, rfl⟩
    simp only [h3, ok_bind, SpecRFC.litDistLengths, hR, optR, if_pos hlen, h5, h6, h7]

theorem readBlock_agree (plain : Array Nat) (bs : Bits) (r1 r2 : Bool × Block × Array Nat × Bits)
    (h : readBlock plain bs = .ok r1) (hs : SpecRFC.readBlock plain bs = .ok r2) : r1 = r2 := by
  rcases rfc_readBlock_cases plain bs with e | ⟨l, bs1, bs2, h1, h2⟩
  · rw [e, h] at hs
    exact Except.ok.inj hs
  obtain ⟨last, b, pl, rest⟩ := r1
  obtain ⟨last', b', pl', rest'⟩ := r2
  obtain ⟨hd, bs3, ts, h3, _, hvl, hvd, h7, rfl, rfl⟩ := (readBlock_dynamic h1 h2).mp h
  obtain ⟨_, _, R, ltr, dtr, ts', h3', hR, _, h5, h6, h7', rfl, rfl⟩ := (rfc_readBlock_dynamic h1 h2).mp hs
  rw [h3] at h3'
  cases h3'
  -- a header that was read repeats at least 3 times; `tables_rel` asks for 2 only
  have hw : ∀ it ∈ hd.items, it.kind = 16 → 2 ≤ it.data := fun it hit hk =>
    Nat.le_of_succ_le (readHeader_rep h3 it hit hk)
  rcases tables_rel hd.items hw R hR hd.numLiterals hvl hvd h5 h6 with ⟨rfl, hsub⟩ | ⟨rfl, heob⟩
  · cases h7.symm.trans (decodeTokens_sub hsub h7')
    rfl
  · obtain ⟨hlim, rfl, rfl, rfl⟩ := decodeTokens_eob_rfc h7'
    cases h7.symm.trans (decodeTokens_eob hlim (heob _))
    rfl

/-- `readBlocks` and `SpecRFC.readBlocks` are this loop over their block readers -/
def blocksLoop (rb : Array Nat → Bits → R (Bool × Block × Array Nat × Bits)) :
    Nat → Array Nat → Bits → R (List Block × Array Nat × Bits)
  | 0, _, _ => .error .fuel
  | fuel + 1, plain, bs => do
      let (last, b, plain, bs) ← rb plain bs
      if last then .ok ([b], plain, bs)
      else do
        let (r, plain, bs) ← blocksLoop rb fuel plain bs
        .ok (b :: r, plain, bs)

theorem readBlocks_eq_loop : ∀ fuel plain bs, readBlocks fuel plain bs = blocksLoop readBlock fuel plain bs := by
  intro fuel
  induction fuel with
  | zero => intro _ _; rfl
  | succ fuel ih => intro plain bs; simp only [readBlocks, blocksLoop, ih]

theorem rfc_readBlocks_eq_loop : ∀ fuel plain bs,
    SpecRFC.readBlocks fuel plain bs = blocksLoop SpecRFC.readBlock fuel plain bs := by
  intro fuel
  induction fuel with
  | zero => intro _ _; rfl
  | succ fuel ih => intro plain bs; simp only [SpecRFC.readBlocks, blocksLoop, ih]

theorem blocksLoop_mono {rb1 rb2 : Array Nat → Bits → R (Bool × Block × Array Nat × Bits)}
    {P : Block → Prop}
    (hrb : ∀ plain bs last b plain' rest, rb1 plain bs = .ok (last, b, plain', rest) → P b →
      rb2 plain bs = .ok (last, b, plain', rest)) :
    ∀ fuel plain bs blocks plain' rest, blocksLoop rb1 fuel plain bs = .ok (blocks, plain', rest) →
      (∀ b ∈ blocks, P b) → blocksLoop rb2 fuel plain bs = .ok (blocks, plain', rest) := by
  intro fuel
  induction fuel with
  | zero => intro _ _ _ _ _ h; cases h
  | succ fuel ih =>
    intro plain bs blocks plain' rest h hP
    rw [blocksLoop] at h ⊢
    obtain ⟨⟨last, b, plain1, bs1⟩, h1, h⟩ := (bind_eq_ok ..).mp h
    cases last
    · obtain ⟨⟨r, _, _⟩, h2, h⟩ := (bind_eq_ok ..).mp h
      cases h
      obtain ⟨hb, hr⟩ := List.forall_mem_cons.mp hP
      simp only [hrb _ _ _ _ _ _ h1 hb, ok_bind, ih _ _ _ _ _ h2 hr, Bool.false_eq_true, if_false]
    · cases h
      simp only [hrb _ _ _ _ _ _ h1 (hP b (List.mem_singleton.mpr rfl)), ok_bind, if_true]

theorem blocksLoop_agree {rb1 rb2 : Array Nat → Bits → R (Bool × Block × Array Nat × Bits)}
    (hrb : ∀ plain bs r1 r2, rb1 plain bs = .ok r1 → rb2 plain bs = .ok r2 → r1 = r2) :
    ∀ fuel plain bs r1 r2, blocksLoop rb1 fuel plain bs = .ok r1 → blocksLoop rb2 fuel plain bs = .ok r2 →
      r1 = r2 := by
  intro fuel
  induction fuel with
  | zero => intro _ _ _ _ h; cases h
  | succ fuel ih =>
    intro plain bs r1 r2 h h'
    rw [blocksLoop] at h h'
    obtain ⟨⟨last, b, plain1, bs1⟩, h1, h⟩ := (bind_eq_ok ..).mp h
    obtain ⟨_, h1', h'⟩ := (bind_eq_ok ..).mp h'
    cases hrb _ _ _ _ h1 h1'
    cases last
    · obtain ⟨_, h2, h⟩ := (bind_eq_ok ..).mp h
      obtain ⟨_, h2', h'⟩ := (bind_eq_ok ..).mp h'
      cases ih _ _ _ _ h2 h2'
      exact Except.ok.inj (h.symm.trans h')
    · exact Except.ok.inj (h.symm.trans h')

theorem readBlocks_agree (fuel : Nat) (plain : Array Nat) (bs : Bits)
    (r1 r2 : List Block × Array Nat × Bits) (h : readBlocks fuel plain bs = .ok r1)
    (hs : SpecRFC.readBlocks fuel plain bs = .ok r2) : r1 = r2 := by
  rw [readBlocks_eq_loop] at h
  rw [rfc_readBlocks_eq_loop] at hs
  exact blocksLoop_agree readBlock_agree _ _ _ _ _ h hs

theorem parseBits_agree (bs : Bits) (p p' : Parsed) (h : parseBits bs = .ok p)
    (hs : SpecRFC.parseBits bs = .ok p') : p = p' := by
  obtain ⟨bs1, h1, h2⟩ := parseBits_eq_ok.mp h
  unfold SpecRFC.parseBits at hs
  obtain ⟨⟨blocks', plain', bs1'⟩, h1', hs⟩ := (bind_eq_ok ..).mp hs
  obtain ⟨⟨pad', bs2'⟩, h2', hs⟩ := (bind_eq_ok ..).mp hs
  cases readBlocks_agree _ _ _ _ _ h1 h1'
  cases h2.symm.trans h2'
  cases hs
  rfl

end Preflate.Proofs.RFC

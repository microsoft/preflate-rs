/-
The accepted runs of the parser. Each function of the parser is inverted once, in the order of
Model/Deflate.lean: an `iff` for what one call that returns `ok` has read (`readHeader_eq_ok`,
`readBlock_eq_ok`, `parseBits_eq_ok`, one step of `readCodeLengths` / `readBytes`), and for each
fuel-bounded loop an induction principle over its accepted runs (`readRleItems_induct`,
`decodeTokens_induct`, `readBlocks_induct`) with the lemmas that run one iteration forward. Whatever
holds of every accepted stream is proved from these, one short case per guard the run passed.

The guards of the model's `do` blocks duplicate the rest of the block in the unfolded term, so the
proofs here go through it with `by_cases` and `rw [if_pos _]`, never with `split`.
-/
import Preflate.Model.Deflate
import Preflate.Proofs.Tables
namespace Preflate.Proofs
open Preflate Preflate.Gen

variable {lt dt t : List (Bits × Nat)} {fuel n i read total sym lc ex dc dx w x : Nat}
  {acc cl data : List Nat} {plain plain' plain1 : Array Nat} {bs bs1 bs2 bs3 bs4 rest : Bits}
  {ts : List Token} {items : List RleItem} {last : Bool} {b : Block} {blocks r : List Block}
  {h : Header} {p : Parsed}

theorem readCodeLengths_succ {r : List Nat × Bits} :
    readCodeLengths (n + 1) i acc bs = .ok r ↔ ∃ v bs1, readBits 3 bs = .ok (v, bs1) ∧
      readCodeLengths n (i + 1) (acc.set (TREE_CODE_ORDER_TABLE.getD i 0) v) bs1 = .ok r := by
  rw [readCodeLengths, bind_eq_ok]
  exact ⟨fun ⟨⟨v, bs1⟩, h⟩ => ⟨v, bs1, h⟩, fun ⟨v, bs1, h⟩ => ⟨(v, bs1), h⟩⟩

theorem readCodeLengths_len (h : readCodeLengths n i acc bs = .ok (cl, rest)) :
    rest.length + 3 * n = bs.length := by
  induction n generalizing i acc bs with
  | zero => cases h; rfl
  | succ n ih =>
    obtain ⟨v, bs1, h1, h2⟩ := readCodeLengths_succ.mp h
    have := readBits_len h1
    have := ih h2
    omega

theorem readCodeLengths_frame (h : readCodeLengths n i acc bs = .ok (cl, rest)) :
    cl.length = acc.length ∧
    ∀ p, (∀ j, i ≤ j → j < i + n → TREE_CODE_ORDER_TABLE.getD j 0 ≠ p) → cl[p]? = acc[p]? := by
  induction n generalizing i acc bs with
  | zero => cases h; exact ⟨rfl, fun _ _ => rfl⟩
  | succ n ih =>
    obtain ⟨v, bs1, -, h2⟩ := readCodeLengths_succ.mp h
    obtain ⟨hl, hp⟩ := ih h2
    refine ⟨by simpa using hl, fun p hq => ?_⟩
    rw [hp p (fun j hj1 hj2 => hq j (by omega) (by omega)),
      List.getElem?_set_ne (hq i (by omega) (by omega))]

/-- Induction over the accepted runs of `readRleItems`: all `total` lengths read, a length
    `w ≤ 15`, or a repeat code `w` (16, 17, 18) with its `x` extra bits. -/
@[elab_as_elim]
theorem readRleItems_induct {motive : Nat → Bits → List RleItem → Bits → Prop}
    (done : ∀ bs, motive total bs [] bs)
    (code : ∀ read bs w bs1 items rest, read < total → decodeSym t bs = .ok (w, bs1) → w ≤ 15 →
      motive (read + 1) bs1 items rest → motive read bs (⟨0, w⟩ :: items) rest)
    (rep : ∀ read bs w bs1 x bs2 items rest, read < total → decodeSym t bs = .ok (w, bs1) →
      15 < w → w ≤ 18 → readBits (treeCodeAdjust w).2 bs1 = .ok (x, bs2) →
      motive (read + (x + (treeCodeAdjust w).1)) bs2 items rest →
      motive read bs (⟨w, x + (treeCodeAdjust w).1⟩ :: items) rest)
    (h : readRleItems t total fuel read bs = .ok (items, rest)) : motive read bs items rest := by
  induction fuel generalizing read bs items with
  | zero => cases h
  | succ fuel ih =>
    rw [readRleItems] at h
    by_cases hlt : read < total
    · rw [if_pos hlt] at h
      obtain ⟨⟨w, bs1⟩, h1, h⟩ := (bind_eq_ok ..).mp h
      dsimp only at h
      by_cases hw : w ≤ 15
      · rw [if_pos hw] at h
        obtain ⟨⟨items', bs2⟩, h2, h⟩ := (bind_eq_ok ..).mp h
        cases h
        exact code _ _ _ _ _ _ hlt h1 hw (ih h2)
      rw [if_neg hw] at h
      by_cases hw' : w ≤ 18
      · rw [if_pos hw'] at h
        obtain ⟨⟨x, bs2⟩, h2, h⟩ := (bind_eq_ok ..).mp h
        obtain ⟨⟨items', bs3⟩, h3, h⟩ := (bind_eq_ok ..).mp h
        cases h
        exact rep _ _ _ _ _ _ _ _ hlt h1 (Nat.lt_of_not_le hw) hw' h2 (ih h3)
      · rw [if_neg hw'] at h; cases h
    · rw [if_neg hlt] at h
      by_cases heq : read = total
      · rw [if_pos heq] at h
        cases h
        exact heq ▸ done _
      · rw [if_neg heq] at h; cases h

theorem readRleItems_done : readRleItems t total (fuel + 1) total bs = .ok ([], bs) := by
  rw [readRleItems, if_neg (Nat.lt_irrefl _), if_pos rfl]

theorem readRleItems_code (hlt : read < total) (h1 : decodeSym t bs = .ok (w, bs1)) (hw : w ≤ 15)
    (h : readRleItems t total fuel (read + 1) bs1 = .ok (items, rest)) :
    readRleItems t total (fuel + 1) read bs = .ok (⟨0, w⟩ :: items, rest) := by
  rw [readRleItems, if_pos hlt, h1, ok_bind]
  dsimp only
  rw [if_pos hw, h]
  rfl

theorem readRleItems_rep (hlt : read < total) (h1 : decodeSym t bs = .ok (w, bs1)) (hw : 15 < w)
    (hw' : w ≤ 18) (h2 : readBits (treeCodeAdjust w).2 bs1 = .ok (x, bs2))
    (h : readRleItems t total fuel (read + (x + (treeCodeAdjust w).1)) bs2 = .ok (items, rest)) :
    readRleItems t total (fuel + 1) read bs = .ok (⟨w, x + (treeCodeAdjust w).1⟩ :: items, rest) := by
  rw [readRleItems, if_pos hlt, h1, ok_bind]
  dsimp only
  rw [if_neg (Nat.not_le.mpr hw), if_pos hw', h2, ok_bind]
  dsimp only
  rw [h]
  rfl

theorem readHeader_eq_ok : readHeader bs = .ok (h, rest) ↔
    ∃ a bs1 b bs2 c bs3 cl bs4 items, readBits 5 bs = .ok (a, bs1) ∧ readBits 5 bs1 = .ok (b, bs2) ∧
      readBits 4 bs2 = .ok (c, bs3) ∧
      readCodeLengths (c + 4) 0 (List.replicate 19 0) bs3 = .ok (cl, bs4) ∧ validLengths cl = true ∧
      readRleItems (codeTable cl) (a + 257 + (b + 1)) (bs4.length + 1) 0 bs4 = .ok (items, rest) ∧
      h = ⟨a + 257, b + 1, c + 4, cl, items⟩ := by
  unfold readHeader
  constructor
  · intro hr
    obtain ⟨⟨a, bs1⟩, h1, hr⟩ := (bind_eq_ok ..).mp hr
    obtain ⟨⟨b, bs2⟩, h2, hr⟩ := (bind_eq_ok ..).mp hr
    obtain ⟨⟨c, bs3⟩, h3, hr⟩ := (bind_eq_ok ..).mp hr
    obtain ⟨⟨cl, bs4⟩, h4, hr⟩ := (bind_eq_ok ..).mp hr
    obtain ⟨t, h5, hr⟩ := (bind_eq_ok ..).mp hr
    obtain ⟨hv, rfl⟩ := mkTable_eq_ok.mp h5
    obtain ⟨⟨items, bs5⟩, h6, hr⟩ := (bind_eq_ok ..).mp hr
    cases hr
    exact ⟨a, bs1, b, bs2, c, bs3, cl, bs4, items, h1, h2, h3, h4, hv, h6, rfl⟩
  · rintro ⟨a, bs1, b, bs2, c, bs3, cl, bs4, items, h1, h2, h3, h4, hv, h6, rfl⟩
    simp only [h1, h2, h3, h4, mkTable_eq_ok.mpr ⟨hv, rfl⟩, h6, ok_bind]

theorem lenSym_sub (lc : Nat) : 257 + lc - NONLEN_CODE_COUNT = lc := Nat.add_sub_cancel_left 257 lc

/-- Induction over the accepted runs of `decodeTokens`: the end-of-block symbol, a literal, or a
    reference (length code `lc` with `ex` extra bits, distance code `dc` with `dx`), each after
    `check_plain_text_size`. The motive sees the fuel for statements that run the loop again with
    the same fuel. -/
@[elab_as_elim]
theorem decodeTokens_induct {motive : Nat → Array Nat → Bits → List Token → Array Nat → Bits → Prop}
    (eob : ∀ fuel plain bs rest, plain.size ≤ PLAIN_LIMIT → decodeSym lt bs = .ok (256, rest) →
      motive (fuel + 1) plain bs [] plain rest)
    (lit : ∀ fuel plain bs sym bs1 ts plain' rest, plain.size ≤ PLAIN_LIMIT →
      decodeSym lt bs = .ok (sym, bs1) → sym < 256 →
      motive fuel (plain.push sym) bs1 ts plain' rest →
      motive (fuel + 1) plain bs (.lit sym :: ts) plain' rest)
    (ref : ∀ fuel plain bs lc bs1 ex bs2 dc bs3 dx bs4 ts plain' rest, plain.size ≤ PLAIN_LIMIT →
      decodeSym lt bs = .ok (257 + lc, bs1) → lc < 29 →
      readBits (lengthExtra lc) bs1 = .ok (ex, bs2) → decodeSym dt bs2 = .ok (dc, bs3) → dc < 30 →
      readBits (distExtra dc) bs3 = .ok (dx, bs4) → 1 + distBase dc + dx ≤ plain.size →
      motive fuel (copyRef plain (1 + distBase dc + dx) (3 + lengthBase lc + ex)) bs4 ts plain' rest →
      motive (fuel + 1) plain bs (.ref (3 + lengthBase lc + ex) (1 + distBase dc + dx)
        (3 + lengthBase lc + ex == 258 && lc != 28) :: ts) plain' rest)
    (h : decodeTokens lt dt fuel plain bs = .ok (ts, plain', rest)) :
    motive fuel plain bs ts plain' rest := by
  induction fuel generalizing plain bs ts with
  | zero => cases h
  | succ fuel ih =>
    rw [decodeTokens] at h
    by_cases hlim : plain.size > PLAIN_LIMIT
    · rw [if_pos hlim] at h; cases h
    rw [if_neg hlim] at h
    obtain ⟨⟨sym, bs1⟩, h1, h⟩ := (bind_eq_ok ..).mp h
    dsimp only at h
    by_cases hlit : sym < 256
    · rw [if_pos hlit] at h
      obtain ⟨⟨ts', pl, bs2⟩, h2, h⟩ := (bind_eq_ok ..).mp h
      cases h
      exact lit _ _ _ _ _ _ _ _ (Nat.le_of_not_gt hlim) h1 hlit (ih h2)
    rw [if_neg hlit] at h
    by_cases heob : sym = 256
    · rw [if_pos heob] at h
      cases h
      subst sym
      exact eob _ _ _ _ (Nat.le_of_not_gt hlim) h1
    rw [if_neg heob] at h
    obtain ⟨lc, rfl⟩ : ∃ lc, sym = 257 + lc := ⟨sym - 257, by omega⟩
    rw [lenSym_sub] at h
    by_cases hlc : lc ≥ LEN_CODE_COUNT
    · rw [if_pos hlc, throw_bind] at h
      cases h
    rw [if_neg hlc] at h
    obtain ⟨⟨ex, bs2⟩, h2, h⟩ := (bind_eq_ok ..).mp h
    obtain ⟨⟨dc, bs3⟩, h3, h⟩ := (bind_eq_ok ..).mp h
    dsimp only at h
    by_cases hdc : dc ≥ DIST_CODE_COUNT
    · rw [if_pos hdc, throw_bind] at h
      cases h
    rw [if_neg hdc] at h
    obtain ⟨⟨dx, bs4⟩, h4, h⟩ := (bind_eq_ok ..).mp h
    dsimp only at h
    by_cases hdist : 1 + distBase dc + dx > plain.size
    · rw [if_pos hdist, throw_bind] at h
      cases h
    rw [if_neg hdist] at h
    obtain ⟨⟨ts', pl, bs5⟩, h5, h⟩ := (bind_eq_ok ..).mp h
    cases h
    exact ref _ _ _ _ _ _ _ _ _ _ _ _ _ _ (Nat.le_of_not_gt hlim) h1 (Nat.lt_of_not_ge hlc) h2 h3
      (Nat.lt_of_not_ge hdc) h4 (Nat.le_of_not_gt hdist) (ih h5)

theorem decodeTokens_eob
    (hlim : plain.size ≤ PLAIN_LIMIT) (h1 : decodeSym lt bs = .ok (256, rest)) :
    decodeTokens lt dt (fuel + 1) plain bs = .ok ([], plain, rest) := by
  rw [decodeTokens, if_neg (Nat.not_lt.mpr hlim), h1]
  rfl

theorem decodeTokens_lit
    (hlim : plain.size ≤ PLAIN_LIMIT) (h1 : decodeSym lt bs = .ok (sym, bs1)) (hlit : sym < 256)
    (h : decodeTokens lt dt fuel (plain.push sym) bs1 = .ok (ts, plain', rest)) :
    decodeTokens lt dt (fuel + 1) plain bs = .ok (.lit sym :: ts, plain', rest) := by
  rw [decodeTokens, if_neg (Nat.not_lt.mpr hlim), h1, ok_bind]
  dsimp only
  rw [if_pos hlit, h]
  rfl

theorem decodeTokens_ref
    (hlim : plain.size ≤ PLAIN_LIMIT) (h1 : decodeSym lt bs = .ok (257 + lc, bs1)) (hlc : lc < 29)
    (h2 : readBits (lengthExtra lc) bs1 = .ok (ex, bs2)) (h3 : decodeSym dt bs2 = .ok (dc, bs3))
    (hdc : dc < 30) (h4 : readBits (distExtra dc) bs3 = .ok (dx, bs4))
    (hdist : 1 + distBase dc + dx ≤ plain.size)
    (h : decodeTokens lt dt fuel (copyRef plain (1 + distBase dc + dx) (3 + lengthBase lc + ex)) bs4 =
      .ok (ts, plain', rest)) :
    decodeTokens lt dt (fuel + 1) plain bs = .ok (.ref (3 + lengthBase lc + ex) (1 + distBase dc + dx)
      (3 + lengthBase lc + ex == 258 && lc != 28) :: ts, plain', rest) := by
  rw [decodeTokens, if_neg (Nat.not_lt.mpr hlim), h1, ok_bind]
  dsimp only
  rw [if_neg (by omega), if_neg (by omega), lenSym_sub,
    if_neg (show ¬ lc ≥ LEN_CODE_COUNT from Nat.not_le.mpr hlc), h2, ok_bind]
  dsimp only
  rw [h3, ok_bind]
  dsimp only
  rw [if_neg (show ¬ dc ≥ DIST_CODE_COUNT from Nat.not_le.mpr hdc), h4, ok_bind]
  dsimp only
  rw [if_neg (Nat.not_lt.mpr hdist)]
  exact (bind_eq_ok ..).mpr ⟨_, h, rfl⟩

theorem readBytes_succ :
    readBytes (n + 1) bs = .ok (data, rest) ↔ ∃ b bs1 r, readBits 8 bs = .ok (b, bs1) ∧
      readBytes n bs1 = .ok (r, rest) ∧ data = b :: r := by
  rw [readBytes, bind_eq_ok]
  constructor
  · rintro ⟨⟨b, bs1⟩, h1, h⟩
    obtain ⟨⟨r, bs2⟩, h2, h⟩ := (bind_eq_ok ..).mp h
    cases h
    exact ⟨b, bs1, r, h1, h2, rfl⟩
  · rintro ⟨b, bs1, r, h1, h2, rfl⟩
    exact ⟨(b, bs1), h1, (bind_eq_ok ..).mpr ⟨_, h2, rfl⟩⟩

theorem readBytes_ok (h : readBytes n bs = .ok (data, rest)) :
    bs = data.flatMap (bitsOfNat 8) ++ rest ∧ data.length = n := by
  induction n generalizing bs data with
  | zero => cases h; exact ⟨rfl, rfl⟩
  | succ n ih =>
    obtain ⟨b, bs1, r, h1, h2, rfl⟩ := readBytes_succ.mp h
    obtain ⟨e2, hl⟩ := ih h2
    refine ⟨?_, by rw [List.length_cons, hl]⟩
    rw [(readBits_ok h1).1, e2, List.flatMap_cons, List.append_assoc]

theorem readBytes_lt (h : readBytes n bs = .ok (data, rest)) : ∀ x ∈ data, x < 256 := by
  induction n generalizing bs data with
  | zero => cases h; exact fun _ hx => absurd hx List.not_mem_nil
  | succ n ih =>
    obtain ⟨b, bs1, r, h1, h2, rfl⟩ := readBytes_succ.mp h
    exact List.forall_mem_cons.mpr ⟨(readBits_ok h1).2, ih h2⟩

theorem readBytes_app : ∀ (data : List Nat) (rest : Bits), (∀ x ∈ data, x < 256) →
    readBytes data.length (data.flatMap (bitsOfNat 8) ++ rest) = .ok (data, rest) := by
  intro data
  induction data with
  | nil => intro rest _; rfl
  | cons x r ih =>
    intro rest hx
    have h1 : x < 2 ^ 8 := hx x (by simp)
    simp only [List.length_cons, readBytes, List.flatMap_cons, List.append_assoc,
      readBits_app h1, ok_bind, ih rest (fun y hy => hx y (List.mem_cons_of_mem _ hy))]

/-- What follows the three header bits of a block of type `mode`. -/
inductive BlockBody (plain : Array Nat) (bs : Bits) : Nat → Block → Array Nat → Bits → Prop
  | stored {pad len ilen : Nat} {bs1 bs2 bs3 rest : Bits} {data : List Nat} :
      readBits (bs.length % 8) bs = .ok (pad, bs1) → readBits 16 bs1 = .ok (len, bs2) →
      readBits 16 bs2 = .ok (ilen, bs3) → len + ilen = 65535 → plain.size ≤ PLAIN_LIMIT →
      readBytes len bs3 = .ok (data, rest) →
      BlockBody plain bs 0 (.stored pad data) (pushAll plain data) rest
  | fixed {ts : List Token} {plain' : Array Nat} {rest : Bits} :
      decodeTokens (codeTable fixedLitLengths) (codeTable fixedDistLengths) (bs.length + 1) plain bs =
        .ok (ts, plain', rest) →
      BlockBody plain bs 1 (.fixed ts) plain' rest
  | dynamic {h : Header} {bs1 : Bits} {ll dl : List Nat} {ts : List Token} {plain' : Array Nat}
      {rest : Bits} :
      readHeader bs = .ok (h, bs1) → litDistLengths h = .ok (ll, dl) → validLengths ll = true →
      validLengths dl = true →
      decodeTokens (codeTable ll) (codeTable dl) (bs1.length + 1) plain bs1 = .ok (ts, plain', rest) →
      BlockBody plain bs 2 (.dynamic h ts) plain' rest

theorem readBlock_eq_ok : readBlock plain bs = .ok (last, b, plain', rest) ↔
    ∃ l bs1 mode bs2, readBits 1 bs = .ok (l, bs1) ∧ readBits 2 bs1 = .ok (mode, bs2) ∧
      last = (l == 1) ∧ BlockBody plain bs2 mode b plain' rest := by
  rw [readBlock]
  constructor
  · intro h
    obtain ⟨⟨l, bs1⟩, h1, h⟩ := (bind_eq_ok ..).mp h
    obtain ⟨⟨mode, bs2⟩, h2, h⟩ := (bind_eq_ok ..).mp h
    dsimp only at h
    refine ⟨l, bs1, mode, bs2, h1, h2, ?_⟩
    by_cases hm0 : mode = 0
    · rw [if_pos hm0] at h
      obtain ⟨⟨pad, bs3⟩, h3, h⟩ := (bind_eq_ok ..).mp h
      obtain ⟨⟨len, bs4⟩, h4, h⟩ := (bind_eq_ok ..).mp h
      obtain ⟨⟨ilen, bs5⟩, h5, h⟩ := (bind_eq_ok ..).mp h
      dsimp only at h
      by_cases hsum : len + ilen ≠ 65535
      · rw [if_pos hsum, throw_bind] at h
        cases h
      rw [if_neg hsum] at h
      by_cases hlim : plain.size > PLAIN_LIMIT
      · rw [if_pos hlim, throw_bind] at h
        cases h
      rw [if_neg hlim] at h
      obtain ⟨⟨data, bs6⟩, h6, h⟩ := (bind_eq_ok ..).mp h
      cases h
      exact ⟨rfl, hm0 ▸ .stored h3 h4 h5 (Decidable.not_not.mp hsum) (Nat.le_of_not_gt hlim) h6⟩
    rw [if_neg hm0] at h
    by_cases hm1 : mode = 1
    · rw [if_pos hm1] at h
      obtain ⟨lt, h3, h⟩ := (bind_eq_ok ..).mp h
      obtain ⟨dt, h4, h⟩ := (bind_eq_ok ..).mp h
      obtain ⟨⟨ts, pl, bs3⟩, h5, h⟩ := (bind_eq_ok ..).mp h
      cases h
      rw [(mkTable_eq_ok.mp h3).2, (mkTable_eq_ok.mp h4).2] at h5
      exact ⟨rfl, hm1 ▸ .fixed h5⟩
    rw [if_neg hm1] at h
    by_cases hm2 : mode = 2
    · rw [if_pos hm2] at h
      obtain ⟨⟨hd, bs3⟩, h3, h⟩ := (bind_eq_ok ..).mp h
      obtain ⟨⟨ll, dl⟩, h4, h⟩ := (bind_eq_ok ..).mp h
      obtain ⟨lt, h5, h⟩ := (bind_eq_ok ..).mp h
      obtain ⟨dt, h6, h⟩ := (bind_eq_ok ..).mp h
      obtain ⟨⟨ts, pl, bs4⟩, h7, h⟩ := (bind_eq_ok ..).mp h
      cases h
      obtain ⟨hv1, rfl⟩ := mkTable_eq_ok.mp h5
      obtain ⟨hv2, rfl⟩ := mkTable_eq_ok.mp h6
      exact ⟨rfl, hm2 ▸ .dynamic h3 h4 hv1 hv2 h7⟩
    · rw [if_neg hm2] at h; cases h
  · rintro ⟨l, bs1, mode, bs2, h1, h2, rfl, hb⟩
    rw [h1, ok_bind]
    dsimp only
    rw [h2, ok_bind]
    dsimp only
    cases hb with
    | stored h3 h4 h5 hsum hlim h6 =>
      rw [if_pos rfl]
      simp only [h3, h4, h5, ok_bind, hsum, ne_eq, not_true, Nat.not_lt.mpr hlim, if_false, h6]
    | fixed h3 =>
      rw [if_neg (by decide), if_pos rfl]
      simp only [mkTable_eq_ok.mpr ⟨fixedLit_valid, rfl⟩, mkTable_eq_ok.mpr ⟨fixedDist_valid, rfl⟩,
        ok_bind, h3]
    | dynamic h3 h4 hv1 hv2 h5 =>
      rw [if_neg (by decide), if_neg (by decide), if_pos rfl]
      simp only [h3, h4, mkTable_eq_ok.mpr ⟨hv1, rfl⟩, mkTable_eq_ok.mpr ⟨hv2, rfl⟩, ok_bind, h5]

/-- Induction over the accepted runs of `readBlocks`: the block marked last, or a block and the
    run after it. The motive sees the fuel for statements that run the loop again with the same fuel. -/
@[elab_as_elim]
theorem readBlocks_induct {motive : Nat → Array Nat → Bits → List Block → Array Nat → Bits → Prop}
    (last : ∀ fuel plain bs b plain' rest, readBlock plain bs = .ok (true, b, plain', rest) →
      motive (fuel + 1) plain bs [b] plain' rest)
    (more : ∀ fuel plain bs b plain1 bs1 r plain' rest,
      readBlock plain bs = .ok (false, b, plain1, bs1) → motive fuel plain1 bs1 r plain' rest →
      motive (fuel + 1) plain bs (b :: r) plain' rest)
    (h : readBlocks fuel plain bs = .ok (blocks, plain', rest)) :
    motive fuel plain bs blocks plain' rest := by
  induction fuel generalizing plain bs blocks with
  | zero => cases h
  | succ fuel ih =>
    rw [readBlocks] at h
    obtain ⟨⟨l, b, pl, bs1⟩, h1, h⟩ := (bind_eq_ok ..).mp h
    dsimp only at h
    cases l with
    | true => cases h; exact last _ _ _ _ _ _ h1
    | false =>
      obtain ⟨⟨r, pl2, bs2⟩, h2, h⟩ := (bind_eq_ok ..).mp h
      cases h
      exact more _ _ _ _ _ _ _ _ _ h1 (ih h2)

theorem readBlocks_last (h1 : readBlock plain bs = .ok (true, b, plain', rest)) :
    readBlocks (fuel + 1) plain bs = .ok ([b], plain', rest) := by
  rw [readBlocks, h1]
  rfl

theorem readBlocks_more (h1 : readBlock plain bs = .ok (false, b, plain1, bs1))
    (h : readBlocks fuel plain1 bs1 = .ok (r, plain', rest)) :
    readBlocks (fuel + 1) plain bs = .ok (b :: r, plain', rest) := by
  rw [readBlocks, h1, ok_bind]
  exact (bind_eq_ok ..).mpr ⟨_, h, rfl⟩

theorem parseBits_eq_ok : parseBits bs = .ok p ↔
    ∃ bs1, readBlocks (bs.length + 1) #[] bs = .ok (p.blocks, p.plain, bs1) ∧
      readBits (bs1.length % 8) bs1 = .ok (p.eofPadding, p.rest) := by
  unfold parseBits
  constructor
  · intro h
    obtain ⟨⟨blocks, plain, bs1⟩, h1, h⟩ := (bind_eq_ok ..).mp h
    obtain ⟨⟨pad, bs2⟩, h2, h⟩ := (bind_eq_ok ..).mp h
    cases h
    exact ⟨bs1, h1, h2⟩
  · rintro ⟨bs1, h1, h2⟩
    simp only [h1, h2, ok_bind]

end Preflate.Proofs

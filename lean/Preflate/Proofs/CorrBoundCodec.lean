/-
SIZE OF THE CORRECTION DATA: operations → binary decisions (Model/Codec.lean).

The number of decisions `encodeOps` emits is EXACTLY the sum of `opCost` over the operations, when the
two decisions that flush a pending default (`default_count = 1`) are charged to the operation that set
it (`mis _ false`, `corr _ 0`):

    value bits _   : bits                      (bypass bits)
    mis _ true     : 1                         (write_default(0): one unary zero)
    mis _ false    : 2                         (the later flush: unary 1)
    corr _ 0       : 2                         (the later flush)
    corr _ v, v≠0  : 1 + 2 * bitLength v       (write_default(0), unary bitLength, bitLength-1 bits)

A well-formed operation (`Op.WF`) costs at most 63.
-/
import Preflate.Proofs.Codec
namespace Preflate.Proofs
open Preflate

def opCost : Op → Nat
  | .value bits _ => bits
  | .mis _ flag => if flag then 1 else 2
  | .corr _ v => if v = 0 then 2 else 1 + 2 * bitLength v

def opsCost (ops : List Op) : Nat := (ops.map opCost).sum

@[simp] theorem opsCost_nil : opsCost [] = 0 := rfl
@[simp] theorem opsCost_cons (o : Op) (ops : List Op) : opsCost (o :: ops) = opCost o + opsCost ops := by
  simp [opsCost]
@[simp] theorem opsCost_append (a b : List Op) : opsCost (a ++ b) = opsCost a + opsCost b := by
  simp [opsCost]

theorem putNBits_length (fam row bits n : Nat) : (putNBits fam row bits n).length = n := by
  induction n with
  | zero => rfl
  | succ n ih => rw [putNBits, List.length_cons, ih]

theorem writeBypass_length (v n : Nat) : (writeBypass v n).length = n := by
  induction n with
  | zero => rfl
  | succ n ih => rw [writeBypass, List.length_cons, ih]

theorem expEvs_length (fam row v : Nat) :
    (expEvs fam row v).length = if v = 0 then 1 else 2 * bitLength v := by
  rw [expEvs, List.length_append, putUnary_length, putNBits_length]
  split
  · subst v; rfl
  · have := (bitLength_bounds v ‹_›).2.2; omega

theorem evsOf_length (op : Op) : (evsOf op).length = opCost op := by
  cases op with
  | value bits v => exact writeBypass_length v bits
  | mis ctx flag => cases flag <;> rfl
  | corr ctx v =>
    rw [evsOf, opCost]
    split
    · rfl
    · rw [List.length_append, expEvs_length 2, if_neg ‹_›]; rfl

theorem encodeOps_length_eq (ops : List Op) : ∀ (c : Nat), c ≤ 1 → ∀ (evs : List Ev),
    encodeOps c ops = .ok evs → evs.length = 2 * c + opsCost ops := by
  have hops : (evsOfOps ops).length = opsCost ops := by
    induction ops with
    | nil => rfl
    | cons o ops ih => rw [evsOfOps_cons, List.length_append, evsOf_length, opsCost_cons, ih]
  intro c hc evs h
  rw [encodeOps_inv ops c evs h, List.length_append, hops]
  obtain rfl | rfl : c = 0 ∨ c = 1 := by omega
  · rfl
  · rfl

theorem opCost_corr_le (ctx v k : Nat) (hk : 1 ≤ k) (h : v < 2 ^ k) : opCost (.corr ctx v) ≤ 1 + 2 * k := by
  have := bitLength_le_of_lt v k h
  simp only [opCost]
  split <;> omega

theorem opCost_mis_le (ctx : Nat) (f : Bool) : opCost (.mis ctx f) ≤ 2 := by
  simp only [opCost]; split <;> omega

theorem opCost_of_wf (o : Op) (h : o.WF) : 1 ≤ opCost o ∧ opCost o ≤ 63 := by
  cases o with
  | value bits v => exact ⟨h.1, by have := h.2.1; rw [opCost]; omega⟩
  | mis ctx f => exact ⟨by rw [opCost]; split <;> omega, Nat.le_trans (opCost_mis_le ctx f) (by omega)⟩
  | corr ctx v => exact ⟨by rw [opCost]; split <;> omega, opCost_corr_le ctx v 31 (by omega) h.2⟩

theorem opsCost_of_wf (ops : List Op) (hwf : ∀ o ∈ ops, o.WF) :
    ops.length ≤ opsCost ops ∧ opsCost ops ≤ 63 * ops.length := by
  induction ops with
  | nil => exact ⟨Nat.le_refl _, Nat.le_refl _⟩
  | cons o ops ih =>
    have h1 := opCost_of_wf o (hwf o List.mem_cons_self)
    have h2 := ih fun o' h' => hwf o' (List.mem_cons_of_mem _ h')
    rw [opsCost_cons, List.length_cons]
    omega

theorem encodeOps_length_le (ops : List Op) (hwf : ∀ o ∈ ops, o.WF) (evs : List Ev)
    (h : encodeOps 0 ops = .ok evs) : evs.length ≤ 63 * ops.length := by
  have := encodeOps_length_eq ops 0 (by omega) evs h
  have := (opsCost_of_wf ops hwf).2
  omega

end Preflate.Proofs

/- C02/C08: reconstruction (`decStream`) inverts analysis (`encStream`) on a valid stream, for ANY predictor. -/
import Preflate.Proofs.PredictTree
import Preflate.Proofs.PredictTok
import Preflate.Proofs.PredictBlock
namespace Preflate.Proofs
open Preflate

variable {H : Type}

/-- calculate_hops is inverted by hop_match on the same candidate list, provided the target really
    matches at its distance (which `ValidTok` supplies) -/
theorem hops_inv (P : Pred H) (plain : Array Nat) (s : PState H) (len dist h : Nat)
    (hm : matchAt plain s.pos len dist = true)
    (hh : calcHops P plain s len dist = .ok h) :
    h ≠ 0 ∧ hopMatch P plain s len h = .ok dist :=
  hops_inv' P plain s len dist h hm hh

theorem decTok_encTok (P : Pred H) (plain : Array Nat) (s : PState H) (t : Token)
    (hv : ValidTok plain s.pos t) (ops : List Op) (s' : PState H)
    (he : encTok P plain s t = .ok (ops, s')) (rest : List Op) :
    decTok P plain s (ops ++ rest) = .ok (t, rest, s') :=
  decTok_encTok' P plain s t hv ops s' he rest

theorem decStream_encStream (P : Pred H) (plain : Array Nat) (blocks : List Block) (pad : Nat)
    (hv : StreamValid plain blocks) (hpad : pad < 256) (ops : List Op)
    (he : encStream P plain blocks pad = .ok ops) (rest : List Op) :
    decStream P plain (ops ++ rest) = .ok (blocks, pad, rest) := by
  obtain ⟨hne, hvb, hend⟩ := hv
  obtain ⟨ops1, s1, hb, -, rfl⟩ := encStream_ok he
  cases blocks with
  | nil => exact absurd rfl hne
  | cons b bs =>
    obtain ⟨a, s2, r, -, -, rfl⟩ := encBlocks_cons_ok hb
    have htail := decTail_encBlocks P plain (b :: bs) ⟨P.init, none, 0, 0⟩ _ s1
      ((a ++ r ++ Op.mis M_EOF false :: Op.corr C_NONZERO_PADDING pad :: rest).length + 1) hvb hend hb
      (by simp only [List.length_append, List.length_cons]; split <;> simp <;> omega)
      (Op.corr C_NONZERO_PADDING pad :: rest)
    simp only [decTail, List.append_assoc, decIsEof_enc, bind, Except.bind, Bool.false_eq_true,
      if_false] at htail
    simp only [decStream, List.append_assoc, List.cons_append, List.nil_append, decIsEof_enc, bind,
      Except.bind, Bool.false_eq_true, if_false, htail, pure, Except.pure, popCorr_cons,
      Nat.mod_eq_of_lt hpad]

end Preflate.Proofs

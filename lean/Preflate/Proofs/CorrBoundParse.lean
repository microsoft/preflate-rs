/-
The parser consumed at least `blocksBits` bits of input (for the size bound in CorrBound.lean).

`blockBits` is a LOWER bound on the number of input bits a block occupies: a Huffman symbol takes at
least one bit (a literal ≥ 1; a reference ≥ 2: length symbol and distance symbol; the end-of-block
symbol ≥ 1), a block header 3 bits, a stored block 32 more (LEN / NLEN), a dynamic header its 14 count
bits, 3 bits per code-length code length and at least one bit per run-length item.

The walk `readX_bits` here gives lower bounds and needs nothing of the codes but `decodeSym_lt`; the
exact counts (`readX_coded`, ParseWriteConv.lean) come together with `BlockCoded`, after the tree
files, which the users of the lower bound (Total.lean for `readBlock_lt`, CorrBound.lean) do not need.
-/
import Preflate.Proofs.Expands
namespace Preflate.Proofs
open Preflate Preflate.Gen

def tokBits : Token → Nat
  | .lit _ => 1
  | .ref _ _ _ => 2

def toksBits (ts : List Token) : Nat := (ts.map tokBits).sum

def blockBits : Block → Nat
  | .stored _ _ => 35
  | .fixed ts => 4 + toksBits ts
  | .dynamic h ts => 18 + 3 * h.numCodeLengths + h.items.length + toksBits ts

def blocksBits (bs : List Block) : Nat := (bs.map blockBits).sum

def totalTokens (bs : List Block) : Nat := (bs.map fun b => (blockTokens b).length).sum

@[simp] theorem toksBits_nil : toksBits [] = 0 := rfl
@[simp] theorem toksBits_cons (t : Token) (ts : List Token) : toksBits (t :: ts) = tokBits t + toksBits ts := by
  simp [toksBits]
@[simp] theorem blocksBits_nil : blocksBits [] = 0 := rfl
@[simp] theorem blocksBits_cons (b : Block) (bs : List Block) :
    blocksBits (b :: bs) = blockBits b + blocksBits bs := by
  simp [blocksBits]

theorem length_le_toksBits (ts : List Token) : ts.length ≤ toksBits ts := by
  induction ts with
  | nil => simp
  | cons t ts ih =>
    simp only [List.length_cons, toksBits_cons]
    cases t <;> simp only [tokBits] <;> omega

theorem tokens_le_blockBits (b : Block) : (blockTokens b).length + 1 ≤ blockBits b := by
  cases b with
  | stored pad data => simp [blockTokens, blockBits]
  | fixed ts => have := length_le_toksBits ts; simp only [blockTokens, blockBits]; omega
  | dynamic h ts => have := length_le_toksBits ts; simp only [blockTokens, blockBits]; omega

theorem totalTokens_le_blocksBits (bs : List Block) : totalTokens bs + bs.length ≤ blocksBits bs := by
  induction bs with
  | nil => simp [totalTokens]
  | cons b bs ih =>
    have := tokens_le_blockBits b
    simp only [totalTokens, List.map_cons, List.sum_cons, List.length_cons, blocksBits_cons] at *
    omega

variable {n i fuel read : Nat} {acc cl : List Nat} {plain plain' : Array Nat} {bs rest : Bits}
  {ts : List Token} {items : List RleItem} {h : Header} {last : Bool} {b : Block}
  {blocks : List Block}

theorem decodeTokens_bits (ll dl : List Nat)
    (h : decodeTokens (codeTable ll) (codeTable dl) fuel plain bs = .ok (ts, plain', rest)) :
    toksBits ts + 1 + rest.length ≤ bs.length := by
  refine decodeTokens_induct ?_ ?_ ?_ h
  · intro _ _ bs rest _ h1
    have := decodeSym_lt h1
    rw [toksBits_nil]
    omega
  · intro _ _ bs sym bs1 ts _ rest _ h1 _ ih
    have := decodeSym_lt h1
    rw [toksBits_cons, tokBits]
    omega
  · intro _ _ bs lc bs1 ex bs2 dc bs3 dx bs4 ts _ rest _ h1 _ h2 h3 _ h4 _ ih
    have := decodeSym_lt h1
    have := readBits_len h2
    have := decodeSym_lt h3
    have := readBits_len h4
    rw [toksBits_cons, tokBits]
    omega

/-- every run-length item starts with a code-length symbol of at least one bit -/
theorem readRleItems_bits (cl : List Nat) (total : Nat)
    (h : readRleItems (codeTable cl) total fuel read bs = .ok (items, rest)) :
    items.length + rest.length ≤ bs.length := by
  refine readRleItems_induct ?_ ?_ ?_ h
  · intro bs
    rw [List.length_nil, Nat.zero_add]
    exact Nat.le_refl _
  · intro _ bs w bs1 items rest _ h1 _ ih
    have := decodeSym_lt h1
    rw [List.length_cons]
    omega
  · intro _ bs w bs1 x bs2 items rest _ h1 _ _ h2 ih
    have := decodeSym_lt h1
    have := readBits_len h2
    rw [List.length_cons]
    omega

theorem readHeader_bits (hr : readHeader bs = .ok (h, rest)) :
    14 + 3 * h.numCodeLengths + h.items.length + rest.length ≤ bs.length := by
  obtain ⟨a, bs1, b, bs2, c, bs3, cl, bs4, items, h1, h2, h3, h4, -, h6, rfl⟩ := readHeader_eq_ok.mp hr
  have := readBits_len h1
  have := readBits_len h2
  have := readBits_len h3
  have := readCodeLengths_len h4
  have := readRleItems_bits _ _ h6
  dsimp only
  omega

theorem readBlock_bits (h : readBlock plain bs = .ok (last, b, plain', rest)) :
    blockBits b + rest.length ≤ bs.length := by
  obtain ⟨l, bs1, mode, bs2, h1, h2, -, hb⟩ := readBlock_eq_ok.mp h
  have := readBits_len h1
  have := readBits_len h2
  cases hb with
  | stored h3 h4 h5 _ _ h6 =>
    have := readBits_len h3
    have := readBits_len h4
    have := readBits_len h5
    have := congrArg List.length (readBytes_ok h6).1
    rw [List.length_append] at this
    rw [blockBits]
    omega
  | fixed h3 =>
    have := decodeTokens_bits _ _ h3
    rw [blockBits]
    omega
  | dynamic h3 _ _ _ h5 =>
    have := readHeader_bits h3
    have := decodeTokens_bits _ _ h5
    rw [blockBits]
    omega

theorem readBlock_lt (h : readBlock plain bs = .ok (last, b, plain', rest)) :
    rest.length < bs.length := by
  have := readBlock_bits h
  have := tokens_le_blockBits b
  omega

theorem readBlocks_bits (h : readBlocks fuel plain bs = .ok (blocks, plain', rest)) :
    blocksBits blocks + rest.length ≤ bs.length := by
  refine readBlocks_induct ?_ ?_ h
  · intro _ _ bs b _ rest h1
    have := readBlock_bits h1
    rw [blocksBits_cons, blocksBits_nil]
    omega
  · intro _ _ bs b _ bs1 r _ rest h1 ih
    have := readBlock_bits h1
    rw [blocksBits_cons]
    omega

theorem parse_bits (d : List UInt8) (p : Parsed) (h : parse d = .ok p) :
    blocksBits p.blocks ≤ 8 * d.length := by
  obtain ⟨bs1, h1, -⟩ := parseBits_eq_ok.mp h
  have := readBlocks_bits h1
  have := length_bytesToBits d
  omega

theorem parse_totals (d : List UInt8) (p : Parsed) (h : parse d = .ok p) :
    totalTokens p.blocks + p.blocks.length ≤ 8 * d.length :=
  Nat.le_trans (totalTokens_le_blocksBits p.blocks) (parse_bits d p h)

end Preflate.Proofs

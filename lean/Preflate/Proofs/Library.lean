/-
The container theorems (C01, C06, C13) for the library model with the CONCRETE stream functions plugged
in for the abstract oracle (`libOracle`, Model/Library.lean): Proofs/LibraryOracle.lean says what
`libOracle.verified` is (from C02Public / C05Public / C10 / PlainLimit); the container level only asks
the oracle about candidates cut out of the file (`recreate_expand_on`, `found_at`), which is how a bound
on the file becomes a bound on every candidate. The statements for the library are in Props/Library.lean.

SIZE: the byte-level stream theorems hold for candidates below 2^61 bytes (the model bounds the block
loop of `recompress_deflate_stream`, unbounded in the code, by 2^64 iterations: `byteSrc`,
Model/DecodeBytes.lean); the container theorems for files below 2^32 bytes, the width of the chunk length
fields.
-/
import Preflate.Proofs.LibraryOracle
import Preflate.Proofs.Container
import Preflate.Proofs.Scan
import Preflate.Proofs.IO
namespace Preflate.Proofs
open Preflate

theorem lib_no_panic_cand (f : Bytes) (hf : f.length < 2 ^ 32) (d : Bytes) (m : String) (hc : Cand f d) :
    libOracle.verified d ≠ .error (.panic m) :=
  lib_no_panic d (Nat.lt_trans (Nat.lt_of_le_of_lt hc.1 hf) (by decide)) m

theorem lib_no_panic_asked (crc : Bytes → Nat) {f : Bytes} (hb : ∀ b ∈ f, b < 256) (hf : f.length < 2 ^ 32)
    (d : Bytes) (m : String) (hd : Asked crc f d) : libOracle.verified d ≠ .error (.panic m) :=
  lib_no_panic_cand f hf d m (asked_cand hb hf hd)

theorem lib_plain_lt (d : Bytes) (r : Res) (h : libOracle.verified d = .ok r) :
    r.plain.length < 2 ^ 32 :=
  Nat.lt_of_le_of_lt (lib_plain_size d r h) (by decide)

/-- C01 for the concrete library model. For every file `f` of bytes below 4 GiB:
    `expand` returns Ok without panicking and `recreate` applied to its output returns exactly `f`.
    ONE hypothesis about the stream level is left: the correction bytes of every accepted stream cut out
    of `f` fit the u32 length field of the chunk format. -/
theorem lib_round_trip (crc : Bytes → Nat) (f : Bytes)
    (hb : ∀ b ∈ f, b < 256) (hf : f.length < 2 ^ 32)
    (hcorr : ∀ d r, Cand f d → libOracle.verified d = .ok r → r.corr.length < 2 ^ 32) :
    ∃ c, libExpand crc f = .ok c ∧ libRecreate crc c = .ok f :=
  recreate_expand_on libOracle crc f hb hf (lib_no_panic_cand f hf)
    (fun d r hc h => ⟨lib_plain_lt d r h, hcorr d r hc h⟩)

theorem lib_round_trip' (crc : Bytes → Nat) (f : Bytes)
    (hb : ∀ b ∈ f, b < 256) (hf : f.length < 2 ^ 32)
    (hcorr : ∀ d r, libOracle.verified d = .ok r → r.corr.length < 2 ^ 32) :
    ∃ c, expand libOracle crc f = .ok c ∧ recreate libOracle crc c = .ok f :=
  lib_round_trip crc f hb hf (fun d r _ h => hcorr d r h)

/-- the acceptance premise `hacc` of the four `found_*` theorems (C06), in terms of the stream level: on a byte
    candidate below 2^61 bytes the scanner accepts exactly when the byte-level model of
    `decompress_deflate_stream` returns Ok, with that result -/
theorem lib_accepts_iff (d : Bytes) (hb : ∀ b ∈ d, b < 256) (hd : d.length < 2 ^ 61) (r : Res) :
    libOracle.verified d = .ok r ↔
    ∃ plain bytes q, decompressBytes Est.estimate Chains.pred false (toU8 d) = .ok (plain, bytes, r.size, q) ∧
      r = ⟨plain.toList, ofU8 bytes.toList, r.size⟩ := by
  rw [lib_verified_bytes d hb hd]
  constructor
  · exact libAnalyze_ok d r
  · rintro ⟨plain, bytes, q, h, hr⟩
    rw [hr]
    exact (lib_verified_of_ok d hd plain bytes r.size q h).1

def libRoundTrips (f : Bytes) : Bool :=
  match libExpand (fun _ => 0) f with
  | .ok c => (match libRecreate (fun _ => 0) c with | .ok g => g == f | .error _ => false)
  | .error _ => false

/-- signature look-alikes: the scanner probes the concrete analysis at 78 9C (which runs the real
    parser on the rest and rejects), the result is a literal-only container -/
def libLookalikes : Bytes := [0x78, 0x9c, 0x50, 0x4b, 0x1f, 0x8b, 8, 0x49, 0x44, 0x41, 0x54]

theorem libLookalikes_roundTrips : libRoundTrips libLookalikes = true := by decide +kernel

example : libRoundTrips libLookalikes = true := libLookalikes_roundTrips

example : libExpand (fun _ => 0) libLookalikes = .ok (1 :: 0 :: 11 :: libLookalikes) := by decide +kernel

/-- a file with an embedded zlib stream (`zlib.compress(b"a" * 1100, 6)`, 12 bytes of DEFLATE, 1100 bytes
    of plaintext) between three leading and two trailing bytes. Kernel evaluation of the whole analysis
    (parser, estimator, match finder, bool coder) on it does not finish in reasonable time, so this one
    is an EXECUTABLE check run at build time by `#guard` (compiled evaluation; not a theorem, no axiom):
    the stream is found (the container holds the 1100 plaintext bytes), and the round trip is exact. -/
def libZlibFile : Bytes :=
  [1, 2, 3, 120, 156, 75, 76, 28, 5, 163, 96, 20, 140, 2, 202, 1, 0, 127, 122, 160, 220, 7, 7]

#guard libRoundTrips libZlibFile
#guard (match libExpand (fun _ => 0) libZlibFile with
  | .ok c => c.length == 1144 && c.take 8 == [1, 0, 5, 1, 2, 3, 120, 156] && (c.drop 8).take 3 == [1, 204, 8]
  | .error _ => false)
#guard (match libOracle.verified (libZlibFile.drop 5) with
  | .ok r => r.plain == List.replicate 1100 97 && r.size == 12 && r.corr.length == 24
  | .error _ => false)

end Preflate.Proofs

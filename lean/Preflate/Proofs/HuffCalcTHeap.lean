/-
`pqdownheap` and the heap construction of `calc_bit_lengths`: they permute the array and
establish the heap order on `freq`.
-/
import Preflate.Proofs.HuffCalcTBase
namespace Preflate.HuffCalcT

/-- the key the heap is ordered by; out of bounds the default node's -/
def fr (h : Array Node) (i : Nat) : Nat := (h.getD i default).freq

def HeapFrom (h : Array Node) (k : Nat) : Prop :=
  ∀ i j, k ≤ i → (j = 2 * i + 1 ∨ j = 2 * i + 2) → j < h.size → fr h i ≤ fr h j

theorem smaller_freq_le {a b : Node} (h : smaller a b = true) : a.freq ≤ b.freq := by
  simp [smaller] at h; omega

theorem not_smaller_freq_le {a b : Node} (h : smaller a b = false) : b.freq ≤ a.freq := by
  simp [smaller] at h; omega

theorem fr_eq_of_getElem? {h : Array Node} {i : Nat} {x : Node} (hx : h[i]? = some x) :
    fr h i = x.freq := by
  obtain ⟨hi, rfl⟩ := Array.getElem?_eq_some_iff.mp hx
  simp [fr, Array.getD, hi]

theorem fr_set (h : Array Node) (i j : Nat) (v : Node) (hi : i < h.size) :
    fr (h.setIfInBounds i v) j = if j = i then v.freq else fr h j := by
  unfold fr
  rw [Array.getD_eq_getD_getElem?, Array.getD_eq_getD_getElem?, Array.getElem?_setIfInBounds]
  by_cases hij : j = i
  · subst hij; simp [hi]
  · simp [hij, Ne.symm hij]

theorem perm_shift (heap : Array Node) (root c' : Nat) (v c : Node)
    (hr : root < heap.size) (hc : heap[c']? = some c) (hne : root ≠ c') :
    ((heap.setIfInBounds root c).setIfInBounds c' v).toList.Perm
      (heap.setIfInBounds root v).toList := by
  obtain ⟨hc', rfl⟩ := Array.getElem?_eq_some_iff.mp hc
  rw [← Array.perm_iff_toList_perm]
  have this : (heap.setIfInBounds root heap[c']).setIfInBounds c' v
      = (heap.setIfInBounds root v).swap root c' (by simp [hr]) (by simp [hc']) := by
    apply Array.ext_getElem?
    intro i
    rw [Array.getElem?_swap]
    simp only [Array.getElem?_setIfInBounds, Array.size_setIfInBounds]
    by_cases h1 : c' = i
    · subst h1; simp [hc']
    · by_cases h2 : root = i
      · subst h2; simp only [h1, hr, if_true, if_false]
        rw [Array.getElem_setIfInBounds (by simpa using hc')]; simp [hne]
      · simp [h1, h2]
  rw [this]; exact Array.swap_perm _ _

/-- `pqdownheap` in progress: `v` is on its way down and `root` is the hole it has reached. All pairs
are in order (from parent index `k` on) except those below the hole; the entry left in the hole
is at most `v`; and what is above the hole is at most what is below it. -/
structure Sift (heap : Array Node) (k root : Nat) (v : Node) : Prop where
  lt : root < heap.size
  ge : k ≤ root
  other : ∀ i j, k ≤ i → i ≠ root → (j = 2 * i + 1 ∨ j = 2 * i + 2) → j < heap.size →
    fr heap i ≤ fr heap j
  across : ∀ i j, k ≤ i → (root = 2 * i + 1 ∨ root = 2 * i + 2) →
    (j = 2 * root + 1 ∨ j = 2 * root + 2) → j < heap.size → fr heap i ≤ fr heap j
  stale : fr heap root ≤ v.freq

theorem Sift.done {heap : Array Node} {k root : Nat} {v : Node} (h : Sift heap k root v)
    (hv : ∀ j, (j = 2 * root + 1 ∨ j = 2 * root + 2) → j < heap.size → v.freq ≤ fr heap j) :
    HeapFrom (heap.setIfInBounds root v) k := by
  intro i j hi hj hjs
  rw [Array.size_setIfInBounds] at hjs
  rw [fr_set _ _ _ _ h.lt, fr_set _ _ _ _ h.lt]
  by_cases h1 : i = root
  · rw [if_pos h1, if_neg (by omega)]
    exact hv j (h1 ▸ hj) hjs
  · rw [if_neg h1]
    have := h.other i j hi h1 hj hjs
    split
    · subst j; exact Nat.le_trans this h.stale
    · exact this

/-- the smaller child `c` moves up into the hole, and the hole down to where it was -/
theorem Sift.step {heap : Array Node} {k root c' : Nat} {v c : Node} (h : Sift heap k root v)
    (hc' : c' = 2 * root + 1 ∨ c' = 2 * root + 2) (hc : heap[c']? = some c)
    (hmin : ∀ j, (j = 2 * root + 1 ∨ j = 2 * root + 2) → j < heap.size → c.freq ≤ fr heap j)
    (hcv : c.freq ≤ v.freq) : Sift (heap.setIfInBounds root c) k c' v := by
  have hc's : c' < heap.size := (Array.getElem?_eq_some_iff.mp hc).1
  have hfc : fr heap c' = c.freq := fr_eq_of_getElem? hc
  have hroot : fr (heap.setIfInBounds root c) root = c.freq := by rw [fr_set _ _ _ _ h.lt, if_pos rfl]
  have hoth : ∀ j, j ≠ root → fr (heap.setIfInBounds root c) j = fr heap j := fun j hj => by
    rw [fr_set _ _ _ _ h.lt, if_neg hj]
  refine ⟨by simpa using hc's, by have := h.ge; omega, fun i j hi hic hj hjs => ?_,
    fun i j hi hci hj hjs => ?_, by rw [hoth c' (by omega), hfc]; exact hcv⟩
  · rw [Array.size_setIfInBounds] at hjs
    by_cases h1 : i = root
    · rw [h1, hroot, hoth j (by omega)]
      exact hmin j (h1 ▸ hj) hjs
    · rw [hoth i h1]
      by_cases h2 : j = root
      · rw [h2, hroot, ← hfc]
        exact h.across i c' hi (h2 ▸ hj) hc' hc's
      · rw [hoth j h2]
        exact h.other i j hi h1 hj hjs
  · rw [Array.size_setIfInBounds] at hjs
    have h1 : i = root := by omega
    rw [h1, hroot, hoth j (by omega), ← hfc]
    exact h.other c' j (by have := h.ge; omega) (by omega) hj hjs

/-- one round of the loop of `pqdownheap` with both children compared: `c'` is the smaller child -/
theorem downGo_step (v : Node) (fuel : Nat) (heap : Array Node) (root : Nat)
    (hlt : 2 * root + 1 < heap.size) :
    ∃ c' c, (c' = 2 * root + 1 ∨ c' = 2 * root + 2) ∧ heap[c']? = some c ∧
      (∀ j, (j = 2 * root + 1 ∨ j = 2 * root + 2) → j < heap.size → c.freq ≤ fr heap j) ∧
      downGo v (fuel + 1) heap root (2 * root + 1) =
        if smaller v c then aset heap root v "pqdownheap: heap[root] = v (break)"
        else aset heap root c "pqdownheap: heap[root] = heap[child]" >>= fun heap =>
          downGo v fuel heap c' (2 * c' + 1) := by
  have f0 : fr heap (2 * root + 1) = heap[2 * root + 1].freq :=
    fr_eq_of_getElem? (Array.getElem?_eq_getElem hlt)
  rw [downGo, if_pos hlt, aget_ok _ hlt, ok_bind]
  by_cases hlt1 : 2 * root + 1 + 1 < heap.size
  · have f1 : fr heap (2 * root + 2) = heap[2 * root + 1 + 1].freq :=
      fr_eq_of_getElem? (Array.getElem?_eq_getElem hlt1)
    rw [if_pos hlt1, aget_ok _ hlt1]
    simp only [ok_bind, pure_eq_ok]
    by_cases hsm : smaller heap[2 * root + 1 + 1] heap[2 * root + 1] = true
    · have := smaller_freq_le hsm
      refine ⟨_, _, .inr rfl, Array.getElem?_eq_getElem hlt1, fun j hj _ => ?_, ?_⟩
      · rcases hj with rfl | rfl <;> omega
      · rw [if_pos hsm, aget_ok _ hlt1, ok_bind]
    · have := not_smaller_freq_le (Bool.eq_false_iff.mpr hsm)
      refine ⟨_, _, .inl rfl, Array.getElem?_eq_getElem hlt, fun j hj _ => ?_, ?_⟩
      · rcases hj with rfl | rfl <;> omega
      · rw [if_neg hsm, aget_ok _ hlt, ok_bind]
  · refine ⟨_, _, .inl rfl, Array.getElem?_eq_getElem hlt, fun j hj hjs => ?_, ?_⟩
    · rcases hj with rfl | rfl <;> omega
    · rw [if_neg hlt1]
      simp only [ok_bind, pure_eq_ok]
      rw [aget_ok _ hlt, ok_bind]

theorem downGo_spec (v : Node) (k : Nat) : ∀ (fuel : Nat) (heap : Array Node) (root : Nat),
    Sift heap k root v → 1 ≤ fuel → heap.size < fuel + (2 * root + 1) →
    ∃ h', downGo v fuel heap root (2 * root + 1) = .ok h' ∧ h'.size = heap.size ∧
      h'.toList.Perm (heap.setIfInBounds root v).toList ∧ HeapFrom h' k := by
  intro fuel
  induction fuel with
  | zero => intro _ _ _ h; omega
  | succ fuel ih =>
    intro heap root hs _ hfuel
    by_cases hlt : 2 * root + 1 < heap.size
    · obtain ⟨c', c, hc', hc, hmin, hrun⟩ := downGo_step v fuel heap root hlt
      rw [hrun]
      by_cases hsm : smaller v c = true
      · rw [if_pos hsm, aset_ok _ _ hs.lt]
        exact ⟨_, rfl, by simp, .refl _, hs.done fun j hj hjs =>
          Nat.le_trans (smaller_freq_le hsm) (hmin j hj hjs)⟩
      · rw [if_neg hsm, aset_ok _ _ hs.lt, ok_bind]
        obtain ⟨h', he, hsz, hperm, hheap⟩ := ih _ c'
          (hs.step hc' hc hmin (not_smaller_freq_le (Bool.eq_false_iff.mpr hsm)))
          (by omega) (by simp; omega)
        exact ⟨h', he, by simpa using hsz,
          hperm.trans (perm_shift heap root c' v c hs.lt hc (by omega)), hheap⟩
    · rw [downGo, if_neg hlt, aset_ok _ _ hs.lt]
      exact ⟨_, rfl, by simp, .refl _, hs.done fun j hj hjs => by omega⟩

theorem downheap_spec (h : Array Node) (k : Nat) (hk : k < h.size) (hh : HeapFrom h (k + 1)) :
    ∃ h', downheap h k = .ok h' ∧ h'.size = h.size ∧ h'.toList.Perm h.toList ∧ HeapFrom h' k := by
  unfold downheap
  rw [aget_ok _ hk, ok_bind]
  obtain ⟨h', he, hsz, hperm, hheap⟩ := downGo_spec h[k] k (h.size + 1) h k
    ⟨hk, Nat.le_refl k, fun i j hi hne hj hjs => hh i j (by omega) hj hjs,
      fun i j hi hr _ _ => by omega, Nat.le_of_eq (fr_eq_of_getElem? (Array.getElem?_eq_getElem hk))⟩
    (by omega) (by omega)
  refine ⟨h', he, hsz, ?_, hheap⟩
  rwa [Array.setIfInBounds_def, dif_pos hk, Array.set_getElem_self] at hperm

theorem heapFrom_half (h : Array Node) : HeapFrom h (h.size / 2) := by
  intro i j hi hj hjs
  omega

theorem heapify_spec (h : Array Node) (n : Nat) (hn : n ≤ h.size) (hh : HeapFrom h n) :
    ∃ h', heapify n h = .ok h' ∧ h'.size = h.size ∧ h'.toList.Perm h.toList ∧ HeapFrom h' 0 := by
  induction n generalizing h with
  | zero => exact ⟨h, rfl, rfl, List.Perm.refl _, hh⟩
  | succ n ih =>
    obtain ⟨h1, he1, hsz1, hperm1, hheap1⟩ := downheap_spec h n (by omega) hh
    obtain ⟨h2, he2, hsz2, hperm2, hheap2⟩ := ih h1 (by omega) hheap1
    refine ⟨h2, ?_, by omega, hperm2.trans hperm1, hheap2⟩
    rw [heapify, he1, ok_bind, he2]

theorem heap_min (h : Array Node) (hh : HeapFrom h 0) (i : Nat) (hi : i < h.size) :
    fr h 0 ≤ fr h i := by
  induction i using Nat.strongRecOn with
  | _ i ih =>
    by_cases h0 : i = 0
    · subst h0; exact Nat.le_refl _
    · have h1 := ih ((i - 1) / 2) (by omega) (by omega)
      have h2 := hh ((i - 1) / 2) i (Nat.zero_le _) (by omega) hi
      omega

theorem fr_pop (h : Array Node) (i : Nat) (hi : i < h.size - 1) : fr h.pop i = fr h i := by
  unfold fr
  rw [Array.getD_eq_getD_getElem?, Array.getD_eq_getD_getElem?, Array.getElem?_pop]
  simp [hi]

theorem heapFrom_pop (h : Array Node) (k : Nat) (hh : HeapFrom h k) : HeapFrom h.pop k := by
  intro i j hi hj hjs
  rw [Array.size_pop] at hjs
  rw [fr_pop h i (by omega), fr_pop h j hjs]
  exact hh i j hi hj (by omega)

theorem heapFrom_set_zero (h : Array Node) (v : Node) (hh : HeapFrom h 0) :
    HeapFrom (h.setIfInBounds 0 v) 1 := by
  intro i j hi hj hjs
  rw [Array.size_setIfInBounds] at hjs
  rw [fr_set _ _ _ _ (by omega), fr_set _ _ _ _ (by omega), if_neg (by omega), if_neg (by omega)]
  exact hh i j (Nat.zero_le _) hj hjs

end Preflate.HuffCalcT

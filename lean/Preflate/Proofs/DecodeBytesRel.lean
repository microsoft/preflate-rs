/-
The relation between a LIST of well-formed operations and a BYTE-source state
(`PredictionDecoderCabac` over `VP8Reader`), and the proof that the three pops respect it.

`ReaderAt out evs d s`: the decoder state `s` has default_count `d` and its reader, with its context counts,
stands in `out` where the writer stood before writing the decisions `evs` (`InStep`, Proofs/VP8.lean), so
each `get` / `get_bypass` returns the next decision of `evs`. The loops of the decoder over the decisions
the encoder's loops emit (`expEvs`, `evsOf`: Proofs/Codec.lean) follow as in the list-level codec proof.
-/
import Preflate.Model.DecodeBytes
import Preflate.Proofs.VP8
import Preflate.Proofs.Codec
import Preflate.Proofs.DecodeBytesSim
import Preflate.Proofs.DecodeBytesList
import Preflate.Proofs.PredictOps
namespace Preflate.Proofs
open Preflate Preflate.VP8

def ReaderAt (out : Array UInt8) (evs : List Ev) (d : Nat) (s : BSt) : Prop :=
  s.dc = d ∧ InStep out evs s.r s.cs

variable {out : Array UInt8} {evs rest : List Ev} {d : Nat} {s : BSt}

theorem get_ev {c : CtxId} {bit : Bool} (h : ReaderAt out (⟨some c, bit⟩ :: evs) d s) :
    (s.get c).1 = bit ∧ ReaderAt out evs d (s.get c).2 := by
  obtain ⟨r', n, g, h'⟩ := h.2.get
  simp only [BSt.get, g]
  exact ⟨trivial, h.1, h'⟩

theorem bypass_ev {bit : Bool} (h : ReaderAt out (⟨none, bit⟩ :: evs) d s) :
    s.getBypass.1 = bit ∧ ReaderAt out evs d s.getBypass.2 := by
  obtain ⟨r', g, h'⟩ := h.2.getBypass
  simp only [BSt.getBypass, g]
  exact ⟨trivial, h.1, h'⟩

theorem getUnary_ev (fam row : Nat) : ∀ (v i fuel : Nat) {s : BSt}, v < fuel →
    ReaderAt out (putUnary fam row v i ++ rest) d s →
    ∃ s', BSt.getUnary fam row fuel i s = .ok (i + v, s') ∧ ReaderAt out rest d s'
  | 0, i, f + 1, s, _, h => by
    obtain ⟨g1, g2⟩ := get_ev h
    exact ⟨_, by rw [BSt.getUnary, g1]; rfl, g2⟩
  | v + 1, i, f + 1, s, hf, h => by
    obtain ⟨g1, g2⟩ := get_ev h
    obtain ⟨s', e1, e2⟩ := getUnary_ev fam row v (i + 1) f (Nat.lt_of_succ_lt_succ hf) g2
    exact ⟨s', by rw [BSt.getUnary, g1, if_pos rfl, e1, Nat.add_assoc, Nat.add_comm 1], e2⟩

theorem getNBits_ev (fam row bits : Nat) : ∀ (n : Nat) {s : BSt},
    ReaderAt out (putNBits fam row bits n ++ rest) d s →
    (BSt.getNBits fam row n s).1 = bits % 2 ^ n ∧ ReaderAt out rest d (BSt.getNBits fam row n s).2
  | 0, _, h => ⟨(Nat.mod_one _).symm, h⟩
  | n + 1, _, h => by
    obtain ⟨g1, g2⟩ := get_ev h
    obtain ⟨e1, e2⟩ := getNBits_ev fam row bits n g2
    rw [BSt.getNBits, g1, e1]
    exact ⟨(testBit_split bits n).symm, e2⟩

theorem readBypass_ev (v : Nat) : ∀ (n acc : Nat) {s : BSt}, ReaderAt out (writeBypass v n ++ rest) d s →
    (BSt.readBypass n acc s).1 = acc * 2 ^ n + v % 2 ^ n ∧ ReaderAt out rest d (BSt.readBypass n acc s).2
  | 0, acc, _, h => ⟨by simp [BSt.readBypass, Nat.mod_one], h⟩
  | n + 1, acc, _, h => by
    obtain ⟨g1, g2⟩ := bypass_ev h
    obtain ⟨e1, e2⟩ := readBypass_ev v n (acc * 2 + (if v.testBit n then 1 else 0)) g2
    rw [BSt.readBypass, g1, e1, testBit_split, Nat.pow_succ, Nat.add_mul, Nat.mul_assoc, Nat.mul_comm 2]
    refine ⟨?_, e2⟩
    split <;> omega

theorem readExp_ev (fam row v : Nat) (hv : v < 2 ^ 31) (h : ReaderAt out (expEvs fam row v ++ rest) d s) :
    ∃ s', BSt.readExp fam row s = .ok (v, s') ∧ ReaderAt out rest d s' := by
  have hbl := bitLength_lt_32 v hv
  rw [expEvs, List.append_assoc] at h
  obtain ⟨s1, e1, h⟩ := getUnary_ev fam row (bitLength v) 0 s.unaryFuel
    (by unfold BSt.unaryFuel; omega) h
  obtain ⟨e2, h⟩ := getNBits_ev (fam + 1) row _ _ h
  refine ⟨_, ?_, h⟩
  simp only [BSt.readExp, e1, ok_bind, Nat.zero_add]
  rcases bitLength_cases v with ⟨rfl, _⟩ | ⟨rfl, _⟩ | ⟨hb, hv⟩
  · rfl
  · rfl
  · rw [if_neg (by omega), if_neg (by omega), if_neg (by omega), e2, hv]

theorem readDefault_ev (c : Nat) (hc : c < 2 ^ 31) (h : ReaderAt out (expEvs 0 0 c ++ rest) 0 s) :
    ∃ s', BSt.readDefault s = .ok s' ∧ ReaderAt out rest c s' := by
  obtain ⟨s', e1, e2⟩ := readExp_ev 0 0 c hc h
  exact ⟨{ s' with dc := c }, by rw [BSt.readDefault, e1]; rfl, rfl, e2.2⟩

theorem encodeBytes_eq (ops : List Op) (hwf : ∀ o ∈ ops, o.WF) :
    encodeBytes ops = .ok (writeEvents (evsOfOps ops)) := by
  rw [encodeBytes, encodeOps_flat ops hwf 0 (Nat.zero_le 1)]
  rfl

/-- well-formed operations still to come ↔ a decoder state (default_count 0)
    positioned on exactly the decisions the encoder emitted for them -/
def OpsAt (out : Array UInt8) (ops : List Op) (s : BSt) : Prop :=
  (∀ o ∈ ops, o.WF) ∧ ReaderAt out (evsOfOps ops) 0 s

theorem pop_rel {op : Op} {ops : List Op} (h : OpsAt out (op :: ops) s) :
    match op with
    | .value bits v => ∃ s', BSt.popValue bits s = .ok (v, s') ∧ OpsAt out ops s'
    | .mis ctx f => ∃ s', BSt.popMis ctx s = .ok (f, s') ∧ OpsAt out ops s'
    | .corr ctx v => ∃ s', BSt.popCorr ctx s = .ok (v, s') ∧ OpsAt out ops s' := by
  obtain ⟨hwf, her⟩ := h
  have hwf' : ∀ o ∈ ops, o.WF := fun o ho => hwf o (List.mem_cons_of_mem _ ho)
  have hop : op.WF := hwf op List.mem_cons_self
  rw [evsOfOps_cons] at her
  cases op with
  | value bits v =>
    obtain ⟨hb1, hb16, hv⟩ := hop
    have h16 : v < 65536 := Nat.lt_of_lt_of_le hv (Nat.pow_le_pow_right (by omega) hb16 : 2 ^ bits ≤ 2 ^ 16)
    obtain ⟨e1, e2⟩ := readBypass_ev v bits 0 her
    refine ⟨_, ?_, hwf', e2⟩
    simp only [BSt.popValue, if_neg (not_not_intro her.1), e1, Nat.zero_mul, Nat.zero_add,
      Nat.mod_eq_of_lt hv, Nat.mod_eq_of_lt h16]
  | mis ctx f =>
    cases f with
    | true =>
      obtain ⟨s', e1, e2⟩ := readDefault_ev 0 (by decide) her
      exact ⟨s', by simp only [BSt.popMis, her.1, if_true, e1, ok_bind, e2.1, Nat.lt_irrefl, gt_iff_lt,
        if_false], hwf', e2⟩
    | false =>
      obtain ⟨s', e1, e2⟩ := readDefault_ev 1 (by decide) her
      exact ⟨{ s' with dc := 0 }, by simp only [BSt.popMis, her.1, if_true, e1, ok_bind, e2.1, gt_iff_lt,
        Nat.zero_lt_one, Nat.sub_self], hwf', rfl, e2.2⟩
  | corr ctx v =>
    by_cases hv0 : v = 0
    · subst hv0
      obtain ⟨s', e1, e2⟩ := readDefault_ev 1 (by decide) her
      exact ⟨{ s' with dc := 0 }, by simp only [BSt.popCorr, her.1, if_true, e1, ok_bind, e2.1, gt_iff_lt,
        Nat.zero_lt_one, Nat.sub_self], hwf', rfl, e2.2⟩
    · rw [evsOf, if_neg hv0, List.append_assoc] at her
      obtain ⟨s', e1, e2⟩ := readDefault_ev 0 (by decide) her
      obtain ⟨s'', f1, f2⟩ := readExp_ev 2 ctx v hop.2 e2
      exact ⟨s'', by simp only [BSt.popCorr, her.1, if_true, e1, ok_bind, e2.1, Nat.lt_irrefl, gt_iff_lt,
        if_false, f1], hwf', f2⟩

theorem srcSim_list_byte (out : Array UInt8) : SrcSim listSrc byteSrc (OpsAt out) where
  value hr := fun (v, ops) hx => by
    cases popValue_eq_ok.mp hx
    obtain ⟨s', e, hr'⟩ := pop_rel hr
    exact ⟨(v, s'), e, rfl, hr'⟩
  mis hr := fun (f, ops) hx => by
    cases popMis_eq_ok.mp hx
    obtain ⟨s', e, hr'⟩ := pop_rel hr
    exact ⟨(f, s'), e, rfl, hr'⟩
  corr hr := fun (v, ops) hx => by
    cases popCorr_eq_ok.mp hx
    obtain ⟨s', e, hr'⟩ := pop_rel hr
    exact ⟨(v, s'), e, rfl, hr'⟩

theorem opsAt_init (ops : List Op) (hwf : ∀ o ∈ ops, o.WF) (bytes : Array UInt8)
    (h : encodeBytes ops = .ok bytes) : OpsAt bytes ops (BSt.init bytes) := by
  obtain rfl : writeEvents (evsOfOps ops) = bytes := Except.ok.inj ((encodeBytes_eq ops hwf).symm.trans h)
  refine ⟨hwf, rfl, ?_⟩
  dsimp only [BSt.init]
  exact inStep_new _

theorem decodeOpsBytes_rel (out : Array UInt8) : ∀ (ops : List Op) (s : BSt), OpsAt out ops s →
    ∃ s', decodeOpsBytes (ops.map Op.kind) s = .ok (ops, s') ∧ OpsAt out [] s'
  | [], s, h => ⟨s, rfl, h⟩
  | op :: ops, s, h => by
    cases op <;>
    · obtain ⟨s1, e1, h1⟩ := pop_rel h
      obtain ⟨s', e2, h2⟩ := decodeOpsBytes_rel out ops s1 h1
      exact ⟨s', by simp only [List.map_cons, Op.kind, decodeOpsBytes, e1, e2, ok_bind], h2⟩

end Preflate.Proofs

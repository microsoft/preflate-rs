/-
`parse_valid`, dynamic headers: what `readHeader` returns satisfies `HeaderValid`.
-/
import Preflate.Model.WriteValid
import Preflate.Proofs.ParserRuns
import Preflate.Proofs.ExpandsBase
namespace Preflate.Proofs
open Preflate Preflate.Gen

variable {t : List (Bits × Nat)} {n i fuel total read : Nat} {acc cl : List Nat} {bs rest : Bits}
  {items : List RleItem} {h : Header}

theorem readCodeLengths_small
    (h : readCodeLengths n i acc bs = .ok (cl, rest)) (hacc : ∀ x ∈ acc, x < 8) :
    ∀ x ∈ cl, x < 8 := by
  induction n generalizing i acc bs with
  | zero => cases h; exact hacc
  | succ n ih =>
    obtain ⟨v, bs1, h1, h2⟩ := readCodeLengths_succ.mp h
    refine ih h2 fun x hx => ?_
    rcases List.mem_or_eq_of_mem_set hx with hx | rfl
    · exact hacc x hx
    · exact (readBits_ok h1).2

/-- what `HeaderValid.items_kind` asks of one item -/
def ItemOK (it : RleItem) : Prop :=
  (it.kind = 0 ∧ it.data ≤ 15) ∨ (it.kind = 16 ∧ 3 ≤ it.data ∧ it.data ≤ 6) ∨
  (it.kind = 17 ∧ 3 ≤ it.data ∧ it.data ≤ 10) ∨ (it.kind = 18 ∧ 11 ≤ it.data ∧ it.data ≤ 138)

theorem readRleItems_items (h : readRleItems t total fuel read bs = .ok (items, rest)) :
    (∀ it ∈ items, ItemOK it) ∧ read + (items.map itemSpan).sum = total := by
  refine readRleItems_induct ?_ ?_ ?_ h
  · exact fun _ => ⟨fun _ hit => (nomatch hit), rfl⟩
  · intro read _ w _ items _ _ _ hw ⟨hk, hs⟩
    refine ⟨List.forall_mem_cons.mpr ⟨Or.inl ⟨rfl, hw⟩, hk⟩, ?_⟩
    rw [List.map_cons, List.sum_cons, itemSpan, if_pos rfl]
    omega
  · intro read _ w _ x _ items _ _ _ hw hw' h2 ⟨hk, hs⟩
    refine ⟨List.forall_mem_cons.mpr ⟨?_, hk⟩, ?_⟩
    · -- 2, 3 or 7 extra bits on top of 3, 3 or 11
      have hx := (readBits_ok h2).2
      have hw : w = 16 ∨ w = 17 ∨ w = 18 := by omega
      rcases hw with rfl | rfl | rfl
      · exact Or.inr (Or.inl ⟨rfl, Nat.le_add_left .., Nat.add_le_add_right (Nat.le_of_lt_succ hx) 3⟩)
      · exact Or.inr (Or.inr (Or.inl
          ⟨rfl, Nat.le_add_left .., Nat.add_le_add_right (Nat.le_of_lt_succ hx) 3⟩))
      · exact Or.inr (Or.inr (Or.inr
          ⟨rfl, Nat.le_add_left .., Nat.add_le_add_right (Nat.le_of_lt_succ hx) 11⟩))
    · rw [List.map_cons, List.sum_cons, itemSpan, if_neg (by dsimp only; omega)]
      dsimp only
      omega

theorem length_expandItems (items : List RleItem) (prev : Nat) :
    (expandItems items prev).length = (items.map itemSpan).sum := by
  induction items generalizing prev with
  | nil => rfl
  | cons it items ih =>
    rw [List.map_cons, List.sum_cons, itemSpan, expandItems]
    split
    · rw [List.length_cons, ih, Nat.add_comm]
    · split <;> rw [List.length_append, List.length_replicate, ih]

theorem litDistLengths_eq_ok {h : Header} {ll dl : List Nat} :
    litDistLengths h = .ok (ll, dl) ↔
      h.numLiterals ≤ (expandItems h.items 0).length ∧ ll = litLens h ∧ dl = distLens h := by
  unfold litDistLengths
  dsimp only
  by_cases hn : h.numLiterals ≤ (expandItems h.items 0).length
  · rw [if_pos hn]
    exact ⟨fun e => by cases e; exact ⟨hn, rfl, rfl⟩, fun ⟨_, e1, e2⟩ => by rw [e1, e2]; rfl⟩
  · rw [if_neg hn]
    exact ⟨fun e => (nomatch e), fun e => absurd e.1 hn⟩

theorem litDistLengths_eq {h : Header} (hv : HeaderValid h) :
    litDistLengths h = .ok (litLens h, distLens h) :=
  litDistLengths_eq_ok.mpr ⟨by rw [length_expandItems, hv.items_sum]; omega, rfl, rfl⟩

theorem readHeader_valid (hr : readHeader bs = .ok (h, rest)) : HeaderValid h := by
  obtain ⟨a, bs1, b, bs2, c, bs3, cl, bs4, items, h1, h2, h3, h4, -, h6, rfl⟩ := readHeader_eq_ok.mp hr
  have ha : a < 32 := (readBits_ok h1).2
  have hb : b < 32 := (readBits_ok h2).2
  have hc : c < 16 := (readBits_ok h3).2
  obtain ⟨hlen, hframe⟩ := readCodeLengths_frame h4
  obtain ⟨hk, hs⟩ := readRleItems_items h6
  have hsmall := readCodeLengths_small h4 fun x hx => by
    rw [List.eq_of_mem_replicate hx]
    omega
  refine ⟨by dsimp only; omega, by dsimp only; omega, by dsimp only; omega, by dsimp only; omega,
    by dsimp only; omega, by dsimp only; omega, by simpa using hlen, hsmall, ?_, hk, by simpa using hs⟩
  -- a position of the order table that was not read still holds the initial 0
  intro i hi1 hi2
  have := hframe (TREE_CODE_ORDER_TABLE.getD i 0) fun j hj1 hj2 hj => by
    have := order_inj j (by omega) i hi2 hj
    dsimp only at hi1
    omega
  have ho := order_lt i hi2
  generalize TREE_CODE_ORDER_TABLE.getD i 0 = k at this ho
  rw [List.getD_eq_getElem?_getD, this, List.getElem?_replicate]
  split <;> rfl

end Preflate.Proofs

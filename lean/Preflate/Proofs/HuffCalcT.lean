/-
Main theorems about the total model of `huffman_calc.rs::calc_zlib::calc_bit_lengths`
(`Preflate.HuffCalcT.calcBitLengths`): no panic, no fuel exhaustion, all lengths `≤ max_bits`,
length of the result.

Without `fits`, i.e. `#{non-zero frequencies} ≤ 2 ^ max_bits`, the Rust panics,
e.g. 129 symbols of frequency 1 with `max_bits = 7`: the redistribution loop
`while bl_count[bits] == 0 { bits -= 1 }` runs below index 0 (`attempt to subtract with overflow`
with overflow checks, index out of bounds without).  The callers (19 symbols / 7 bits,
≤ 288 symbols / 15 bits) satisfy it.
-/
import Mathlib.Algebra.Group.Nat.Defs
import Preflate.Proofs.HuffCalcTCombine
import Preflate.Proofs.HuffCalcTRedist
import Preflate.Proofs.HuffCalcTScan
namespace Preflate.HuffCalcT

/-- what the callers guarantee -/
structure Pre (f : List Nat) (m : Nat) : Prop where
  /-- at most 288 symbols -/
  len : f.length ≤ 288
  /-- `u16` frequencies -/
  u16 : ∀ x ∈ f, x < 65536
  m1 : 1 ≤ m
  m15 : m ≤ 15
  /-- the used symbols fit into a code of `m` bits (19 ≤ 2^7, 288 ≤ 2^15) -/
  fits : (f.filter (fun x => decide (0 < x))).length ≤ 2 ^ m

/-- length of the result: `max_code + 1`, except that a second entry is pushed when at most one
symbol is used and it is symbol 0 (or none) -/
def resultLength (f : List Nat) : Nat :=
  if (f.filter (fun x => decide (0 < x))).length ≤ 1 ∧ maxCode f = 0 then 2 else maxCode f + 1

/-- at most one symbol is used: it and one more (symbol 0, or symbol 1 if it is symbol 0 itself) get
a code of one bit -/
theorem calcBitLengths_of_le_one (f : List Nat) (m : Nat) (h : (leaves0 f).length ≤ 1) :
    ∃ l, calcBitLengths f m = .ok l ∧ (∀ x ∈ l, x ≤ 1) ∧ l.length = resultLength f := by
  have hlen0 : (leaves0 f).length = (f.filter (fun x => decide (0 < x))).length :=
    scanList_length f 0
  unfold calcBitLengths
  rw [scan_zero]
  simp only [List.size_toArray, if_pos h]
  rw [aset_ok _ _ (by simp)]
  simp only [ok_bind]
  by_cases hmc : maxCode f = 0
  · simp only [hmc, bne_self_eq_false, Bool.false_eq_true, if_false, pure_eq_ok]
    exact ⟨_, rfl, fun x hx => by simp at hx; omega, by simp [resultLength, hmc, ← hlen0, h]⟩
  · have hne : (maxCode f != 0) = true := by simp [hmc]
    simp only [hne, if_true]
    rw [aset_ok _ _ (by simp)]
    simp only [ok_bind, pure_eq_ok]
    refine ⟨_, rfl, fun x hx => ?_, by simp [resultLength, hmc]⟩
    rw [Array.toList_setIfInBounds, Array.toList_setIfInBounds, Array.toList_replicate] at hx
    rcases List.mem_or_eq_of_mem_set hx with hx | rfl
    · rcases List.mem_or_eq_of_mem_set hx with hx | rfl
      · exact List.eq_of_mem_replicate hx ▸ Nat.zero_le 1
      · exact Nat.le_refl 1
    · exact Nat.le_refl 1

theorem calcBitLengths_spec (f : List Nat) (m : Nat) (pre : Pre f m) :
    ∃ l, calcBitLengths f m = .ok l ∧ (∀ x ∈ l, x ≤ m) ∧ l.length = resultLength f := by
  by_cases hsmall : (leaves0 f).length ≤ 1
  · obtain ⟨l, hl, hb, hlen⟩ := calcBitLengths_of_le_one f m hsmall
    exact ⟨l, hl, fun x hx => Nat.le_trans (hb x hx) pre.m1, hlen⟩
  have hlen0 : (leaves0 f).length = (f.filter (fun x => decide (0 < x))).length :=
    scanList_length f 0
  obtain ⟨heap1, hh1, hsz1, hperm1, hord1⟩ :=
    heapify_spec (leaves0 f).toArray ((leaves0 f).length / 2) (by simp; omega)
      (by simpa using heapFrom_half (leaves0 f).toArray)
  simp only [List.size_toArray] at hperm1 hsz1
  have inv := Inv.init hperm1 hord1 fun x hx =>
    let ⟨h1, h2, s, h3, _⟩ := scanList_mem f 0 x hx; ⟨h1, h2, s, h3⟩
  -- 288 frequencies below `2 ^ 16` cannot overflow a `u32`
  have hWu : ((leaves0 f).map (·.freq)).sum ≤ u32Max := Nat.le_trans
    (scanList_sum f 0 65535 fun x hx => Nat.le_of_lt_succ (pre.u16 x hx))
    (by have := pre.len; simp only [u32Max]; omega)
  obtain ⟨nodes', root, t, hcomb, out⟩ :=
    combine_spec _ _ hWu (leaves0 f).length heap1 #[] inv (by omega) (by omega)
  have hheight := out.height_lt (k := 32) (Nat.lt_succ_of_le hWu)
  obtain ⟨tl, tr, rfl⟩ := out.tree.inner out.inner
  have hleaves_lt : ∀ s ∈ (Tree.node tl tr).leaves, s < maxCode f + 1 := fun s hs =>
    Nat.lt_succ_of_le (scanList_le_scanMax f 0 0 s (out.leaves.mem_iff.mp hs))
  have hcr := countRec_spec out.tree 257 (nodes'.size - 1) 0
    (Array.replicate (maxCode f + 1) 0) out.last (by omega) (by omega) (by simpa using hleaves_lt)
  generalize hlens1 : (Tree.node tl tr).write 0 (Array.replicate (maxCode f + 1) 0) = lens1 at hcr
  have hsize1 : lens1.size = maxCode f + 1 := by rw [← hlens1]; simp
  obtain ⟨bl, ov, hcl, hov0, hovpos⟩ := tail_spec m pre.m1 (by have := pre.m15; omega) tl tr _
    nodes'.toList
    (by rw [out.leaves.length_eq]
        exact Nat.le_trans (Nat.le_of_eq ((scanList_syms_length f 0).trans hlen0)) pre.fits)
    (out.leaves.nodup_iff.mpr (scanList_nodup f 0)) hleaves_lt (out.flat.trans out.leaves.symm)
    hlens1
  have hnz : (nodes'.size == 0) = false := by
    have := out.size
    rw [beq_eq_false_iff_ne]; omega
  have hres : resultLength f = maxCode f + 1 := by
    rw [resultLength, if_neg]
    intro h
    rw [← hlen0] at h
    omega
  unfold calcBitLengths
  rw [scan_zero]
  simp only [List.size_toArray, if_neg hsmall, hh1, ok_bind, hsz1, hcomb, hnz, Bool.false_eq_true,
    if_false, hcr, hcl]
  by_cases hov : ov > 0
  · obtain ⟨bl', lens', hred, hrea, hsz', hle⟩ := hovpos hov
    simp only [hov, if_true, hred, ok_bind, hrea, pure_eq_ok]
    exact ⟨_, rfl, hle, by simp [hsz', hsize1, hres]⟩
  · simp only [hov, if_false, pure_eq_ok]
    exact ⟨_, rfl, hov0 (by omega), by simp [hsize1, hres]⟩

theorem calcBitLengths_no_panic (f : List Nat) (m : Nat) (pre : Pre f m) (s : String) :
    calcBitLengths f m ≠ .error (.panic s) := by
  obtain ⟨l, hl, _⟩ := calcBitLengths_spec f m pre
  rw [hl]; intro h; cases h

theorem calcBitLengths_no_fuel (f : List Nat) (m : Nat) (pre : Pre f m) :
    calcBitLengths f m ≠ .error .fuel := by
  obtain ⟨l, hl, _⟩ := calcBitLengths_spec f m pre
  rw [hl]; intro h; cases h

theorem calcBitLengths_bounded (f : List Nat) (m : Nat) (pre : Pre f m) (l : List Nat)
    (h : calcBitLengths f m = .ok l) : ∀ x ∈ l, x ≤ m := by
  obtain ⟨l', hl, hb, _⟩ := calcBitLengths_spec f m pre
  rw [hl] at h; cases h; exact hb

theorem calcBitLengths_length (f : List Nat) (m : Nat) (pre : Pre f m) (l : List Nat)
    (h : calcBitLengths f m = .ok l) : l.length = resultLength f := by
  obtain ⟨l', hl, _, hlen⟩ := calcBitLengths_spec f m pre
  rw [hl] at h; cases h; exact hlen

theorem calcBitLengths_ok (f : List Nat) (m : Nat) (pre : Pre f m) :
    ∃ l, calcBitLengths f m = .ok l := by
  obtain ⟨l, hl, _⟩ := calcBitLengths_spec f m pre
  exact ⟨l, hl⟩

/-- sufficient for `fits`: no more symbols than codes -/
theorem pre_of_length (f : List Nat) (m : Nat) (hlen : f.length ≤ 288) (hu : ∀ x ∈ f, x < 65536)
    (m1 : 1 ≤ m) (m15 : m ≤ 15) (hfit : f.length ≤ 2 ^ m) : Pre f m where
  len := hlen
  u16 := hu
  m1 := m1
  m15 := m15
  fits := Nat.le_trans (List.length_filter_le _ f) hfit

/-- the two call sites: code-length alphabet (19 symbols, 7 bits) -/
theorem pre_codelen (f : List Nat) (hlen : f.length ≤ 19) (hu : ∀ x ∈ f, x < 65536) : Pre f 7 :=
  pre_of_length f 7 (by omega) hu (by omega) (by omega) (Nat.le_trans hlen (by decide))

/-- literal/length (≤ 288) and distance (≤ 32) alphabets, 15 bits -/
theorem pre_litdist (f : List Nat) (hlen : f.length ≤ 288) (hu : ∀ x ∈ f, x < 65536) :
    Pre f 15 :=
  pre_of_length f 15 hlen hu (by omega) (by omega) (Nat.le_trans hlen (by decide))

end Preflate.HuffCalcT

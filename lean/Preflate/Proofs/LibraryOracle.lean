/-
The concrete oracle `libOracle` (Model/Library.lean): what `Oracle.verified` amounts to for it.
Everything here is a composition of the stream-level theorems (C02Public, C05Public, C10, PlainLimit).
-/
import Preflate.Model.Library
import Preflate.Props.C02Public
import Preflate.Props.C05Public
import Preflate.Props.C10
import Preflate.Proofs.PlainLimit
import Preflate.Proofs.ContainerChunks
namespace Preflate.Proofs
open Preflate

theorem toU8_ofU8 (l : List UInt8) : toU8 (ofU8 l) = l := by
  induction l with
  | nil => rfl
  | cons a l ih =>
    simp only [toU8, ofU8, List.map_cons, List.map_map] at ih ⊢
    rw [ih, UInt8.ofNat_toNat]

theorem length_toU8 (d : Bytes) : (toU8 d).length = d.length := by simp [toU8]

theorem length_ofU8 (d : List UInt8) : (ofU8 d).length = d.length := by simp [ofU8]

theorem ofU8_toU8 (d : Bytes) (hb : ∀ b ∈ d, b < 256) : ofU8 (toU8 d) = d := by
  induction d with
  | nil => rfl
  | cons a d ih =>
    have ha : a < 256 := hb a (List.mem_cons_self ..)
    have ih := ih (fun b h => hb b (List.mem_cons_of_mem _ h))
    simp only [toU8, ofU8, List.map_cons, List.map_map] at ih ⊢
    rw [ih]
    congr 1
    show (UInt8.ofNat a).toNat = a
    rw [UInt8.toNat_ofNat']
    exact Nat.mod_eq_of_lt ha

theorem ofU8_take (n : Nat) (l : List UInt8) : ofU8 (l.take n) = (ofU8 l).take n := by
  simp [ofU8, List.map_take]

/-- the byte-level `decompress_deflate_stream` model ends in Ok or Err on every input below 2^61 bytes:
    the analysis ends in Ok or Err (`public_outcomes`), every operation it emits is well formed
    (`analysis_facts`), hence the bool coder accepts them (`bytes_roundtrip`) -/
theorem decompressBytes_outcomes (d : List UInt8) (hd : d.length < 2 ^ 61) :
    (∃ x, decompressBytes Est.estimate Chains.pred false d = .ok x) ∨
      decompressBytes Est.estimate Chains.pred false d = .error .err := by
  rcases public_outcomes false d with ⟨r, h⟩ | h
  · obtain ⟨hwf, _⟩ := analysis_facts Est.estimate Chains.pred chains_pred_bounded d hd
      (estimate_in_range_parsed d) r h
    obtain ⟨_, bytes, _, he, _⟩ := Preflate.bytes_roundtrip r.corr hwf
    left
    exact ⟨(r.plain, bytes, r.size, r.params), by
      simp only [decompressBytes, h, he, bind, Except.bind, Bool.false_eq_true, if_false]⟩
  · right
    simp only [decompressBytes, h, bind, Except.bind]

theorem decompressBytes_bounds (verify : Bool) (d : List UInt8) (plain : Array Nat) (bytes : Array UInt8)
    (n : Nat) (q : Params)
    (h : decompressBytes Est.estimate Chains.pred verify d = .ok (plain, bytes, n, q)) :
    n ≤ d.length ∧ plain.size ≤ 2147483647 := by
  obtain ⟨r, h1, _, rfl, rfl, rfl, _⟩ := decompressBytes_ok h
  refine ⟨(public_pair_exact false d r h1).2, ?_⟩
  obtain ⟨p, params, hdr, body, hp, _, _, _, rfl⟩ := decompressStream_ok h1
  exact parse_plain_lt d p hp

theorem libAnalyze_ok (d : Bytes) (r : Res) (h : libOracle.analyze d = .ok r) :
    ∃ plain bytes q, decompressBytes Est.estimate Chains.pred false (toU8 d) = .ok (plain, bytes, r.size, q) ∧
      r = ⟨plain.toList, ofU8 bytes.toList, r.size⟩ := by
  change libAnalyze d = .ok r at h
  unfold libAnalyze at h
  cases hx : decompressBytes Est.estimate Chains.pred false (toU8 d) with
  | error e => rw [hx] at h; cases h
  | ok x =>
    obtain ⟨plain, bytes, n, q⟩ := x
    rw [hx] at h
    simp only [bind, Except.bind, Except.ok.injEq] at h
    subst h
    exact ⟨plain, bytes, q, rfl, rfl⟩

theorem libRecompress_analyzed (d : Bytes) (hd : d.length < 2 ^ 61) (plain : Array Nat)
    (bytes : Array UInt8) (n : Nat) (q : Params)
    (h : decompressBytes Est.estimate Chains.pred false (toU8 d) = .ok (plain, bytes, n, q)) :
    libOracle.recompress plain.toList (ofU8 bytes.toList) = .ok (ofU8 ((toU8 d).take n)) := by
  show libRecompress _ _ = _
  unfold libRecompress
  rw [toU8_ofU8, Array.toArray_toList, Array.toArray_toList,
    public_bytes_exact false (toU8 d) plain bytes n q h (by rw [length_toU8]; exact hd)]
  rfl

theorem lib_verified_of_error (d : Bytes) (e : Fail)
    (h : decompressBytes Est.estimate Chains.pred false (toU8 d) = .error e) :
    libOracle.analyze d = .error e ∧ libOracle.verified d = .error e := by
  have ha : libOracle.analyze d = .error e := by
    show libAnalyze d = _
    simp only [libAnalyze, h, bind, Except.bind]
  refine ⟨ha, ?_⟩
  unfold Oracle.verified
  rw [ha]
  rfl

theorem lib_verified_of_ok (d : Bytes) (hd : d.length < 2 ^ 61) (plain : Array Nat)
    (bytes : Array UInt8) (n : Nat) (q : Params)
    (h : decompressBytes Est.estimate Chains.pred false (toU8 d) = .ok (plain, bytes, n, q)) :
    libOracle.analyze d = .ok ⟨plain.toList, ofU8 bytes.toList, n⟩ ∧
    libOracle.verified d =
      if ofU8 ((toU8 d).take n) = d.take n then .ok ⟨plain.toList, ofU8 bytes.toList, n⟩
      else .error .err := by
  have hn := (decompressBytes_bounds false _ plain bytes n q h).1
  rw [length_toU8] at hn
  have ha : libOracle.analyze d = .ok ⟨plain.toList, ofU8 bytes.toList, n⟩ := by
    show libAnalyze d = _
    simp only [libAnalyze, h, bind, Except.bind]
  refine ⟨ha, ?_⟩
  have hr := libRecompress_analyzed d hd plain bytes n q h
  unfold Oracle.verified
  rw [ha, ok_bind]
  simp only
  rw [hr, ok_bind]
  simp only [Nat.not_lt.mpr hn, if_false]

/-- WHAT THE SCANNER'S ACCEPTANCE TEST IS for the concrete oracle, on any candidate below 2^61 bytes:
    rejected with Err, or the analysis returned Ok and the result is accepted iff the candidate's
    consumed prefix consists of bytes (always the case for a slice of a file) -/
theorem lib_verified_eq (d : Bytes) (hd : d.length < 2 ^ 61) :
    libOracle.verified d = .error .err ∨
    ∃ plain bytes n q,
      decompressBytes Est.estimate Chains.pred false (toU8 d) = .ok (plain, bytes, n, q) ∧
      n ≤ d.length ∧ plain.size ≤ 2147483647 ∧
      libOracle.verified d =
        if ofU8 ((toU8 d).take n) = d.take n then .ok ⟨plain.toList, ofU8 bytes.toList, n⟩
        else .error .err := by
  rcases decompressBytes_outcomes (toU8 d) (by rw [length_toU8]; exact hd) with ⟨⟨plain, bytes, n, q⟩, h⟩ | h
  · right
    obtain ⟨hn, hp⟩ := decompressBytes_bounds false _ plain bytes n q h
    rw [length_toU8] at hn
    exact ⟨plain, bytes, n, q, h, hn, hp, (lib_verified_of_ok d hd plain bytes n q h).2⟩
  · left
    exact (lib_verified_of_error d _ h).2

/-- the acceptance test of the concrete oracle neither panics nor runs out of a loop bound of the model
    (candidates below 2^61 bytes) -/
theorem lib_verified_cases (d : Bytes) (hd : d.length < 2 ^ 61) :
    libOracle.verified d = .error .err ∨ ∃ r, libOracle.verified d = .ok r := by
  rcases lib_verified_eq d hd with h | ⟨plain, bytes, n, q, _, _, _, h⟩
  · exact .inl h
  · rw [h]
    by_cases hc : ofU8 ((toU8 d).take n) = d.take n
    · rw [if_pos hc]; exact .inr ⟨_, rfl⟩
    · rw [if_neg hc]; exact .inl rfl

theorem lib_no_panic (d : Bytes) (hd : d.length < 2 ^ 61) (m : String) :
    libOracle.verified d ≠ .error (.panic m) := by
  intro hc
  rcases lib_verified_cases d hd with h | ⟨r, h⟩ <;> cases h.symm.trans hc

theorem lib_no_fuel (d : Bytes) (hd : d.length < 2 ^ 61) :
    libOracle.verified d ≠ .error .fuel := by
  intro hc
  rcases lib_verified_cases d hd with h | ⟨r, h⟩ <;> cases h.symm.trans hc

/-- the plaintext of an accepted stream fits an `i32` (the parser's 2 GiB guard), whatever the
    candidate; in particular it fits the chunk's u32 length field -/
theorem lib_plain_size (d : Bytes) (r : Res) (h : libOracle.verified d = .ok r) :
    r.plain.length ≤ 2147483647 := by
  obtain ⟨plain, bytes, q, h1, h2⟩ := libAnalyze_ok d r (verified_ok h).1
  rw [h2]
  exact (decompressBytes_bounds false _ plain bytes r.size q h1).2

/-- on a byte candidate below 2^61 bytes the reconstruction check always passes: the concrete
    oracle accepts exactly when the analysis returns Ok (what `verify = true` would also return,
    `public_bytes_verify_same`) -/
theorem lib_verified_bytes (d : Bytes) (hb : ∀ b ∈ d, b < 256) (hd : d.length < 2 ^ 61) :
    libOracle.verified d = libOracle.analyze d := by
  cases hx : decompressBytes Est.estimate Chains.pred false (toU8 d) with
  | error e =>
    obtain ⟨h1, h2⟩ := lib_verified_of_error d e hx
    rw [h1, h2]
  | ok x =>
    obtain ⟨plain, bytes, n, q⟩ := x
    obtain ⟨h1, h2⟩ := lib_verified_of_ok d hd plain bytes n q hx
    rw [h1, h2, ofU8_take, ofU8_toU8 d hb, if_pos rfl]

end Preflate.Proofs

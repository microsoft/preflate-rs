/-
C03 (RFC reading): the decoding tables of the two readings of a dynamic header.

If the library accepts both halves of ITS reading (complete codes) and zlib's rules accept both halves
of the RFC reading, then either
  (a) the literal/length tables are the same and every distance code zlib can decode is decoded
      identically by the library (`SubTable`), or
  (b) zlib's literal/length code is the single symbol 256 with the code `0`, and the library's table
      decodes the bit `0` as symbol 256 as well.
-/
import Preflate.Proofs.SpecRFCExpand
import Preflate.Proofs.SpecRFCKraft
namespace Preflate.Proofs.RFC
open Preflate SpecRFC Preflate.Proofs

def SubTable (t1 t2 : List (Bits × Nat)) : Prop :=
  ∀ bs x, decodeSym t1 bs = .ok x → decodeSym t2 bs = .ok x

theorem decodeSym_single {s : Nat} {bs : Bits} {x : Nat × Bits}
    (h : decodeSym [([false], s)] bs = .ok x) : ∃ rest, bs = false :: rest ∧ x = (s, rest) := by
  cases bs with
  | nil => simp [decodeSym, isPrefix] at h
  | cons b rest =>
    cases b with
    | true => simp [decodeSym, isPrefix] at h
    | false =>
      simp [decodeSym, isPrefix] at h
      exact ⟨rest, rfl, h.symm⟩

theorem tableFor_some {isDist : Bool} {l : List Nat} {t : List (Bits × Nat)}
    (h : tableFor isDist l = some t) :
    (isDist = false → l.getD 256 0 ≠ 0) ∧
    ((kraft l = 2 ^ 15 ∧ t = codeTable l) ∨
     (l.filter (· ≠ 0) = [1] ∧ t = [([false], l.findIdx (· ≠ 0))]) ∨
     (isDist = true ∧ t = [])) := by
  unfold tableFor at h
  by_cases h15 : ¬ l.all (· ≤ 15) = true
  · rw [if_pos h15] at h; cases h
  rw [if_neg h15] at h
  by_cases h256 : isDist = false ∧ l.getD 256 0 = 0
  · rw [if_pos h256] at h; cases h
  rw [if_neg h256] at h
  refine ⟨fun hd h0 => h256 ⟨hd, h0⟩, ?_⟩
  by_cases hk : kraft l = 2 ^ 15
  · rw [if_pos hk] at h
    exact Or.inl ⟨hk, (Option.some.inj h).symm⟩
  rw [if_neg hk] at h
  by_cases hf : l.filter (· ≠ 0) = [1]
  · rw [if_pos hf] at h
    exact Or.inr (Or.inl ⟨hf, (Option.some.inj h).symm⟩)
  rw [if_neg hf] at h
  by_cases hz : isDist = true ∧ l.all (· = 0) = true
  · rw [if_pos hz] at h
    exact Or.inr (Or.inr ⟨hz.1, (Option.some.inj h).symm⟩)
  · rw [if_neg hz] at h; cases h

theorem lt_length_of_getD_ne {l : List Nat} {i : Nat} (h : l.getD i 0 ≠ 0) : i < l.length :=
  Proofs.lt_length_of_getD_ne h

theorem dist_tables {C R : List Nat} (rel : Rel 0 C R) (n : Nat)
    (hsame : ∀ i, i < n → R.getD i 0 = C.getD i 0)
    (hvd : validLengths (C.drop n) = true) {dtr : List (Bits × Nat)}
    (h2 : tableFor true (R.drop n) = some dtr) : SubTable dtr (codeTable (C.drop n)) := by
  have hlen : (R.drop n).length = (C.drop n).length := by simp [rel.len]
  have hpw : ∀ i, (R.drop n).getD i 0 = (C.drop n).getD i 0 ∨ (R.drop n).getD i 0 = 0 := fun i => by
    rw [getD_drop, getD_drop]; exact rel.pw _
  obtain ⟨_, hcase⟩ := tableFor_some h2
  rcases hcase with ⟨hk, rfl⟩ | ⟨hf, rfl⟩ | ⟨_, rfl⟩
  · rw [eq_of_kraft_eq _ _ hlen hpw (hk.trans (kraft_of_valid hvd).symm)]
    exact fun _ _ h => h
  · obtain ⟨hj, hj1, hj0⟩ := single_of_filter _ 1 hf
    generalize (R.drop n).findIdx (· ≠ 0) = j at hj hj1 hj0
    intro bs x hx
    obtain ⟨rest, rfl, rfl⟩ := decodeSym_single hx
    have hcj : (C.drop n).getD j 0 = 1 := by
      have := hpw j
      omega
    refine decodeSym_first_one hvd (by omega) hcj ?_ rest
    intro i hi hci
    -- position n + i differs: an extra 1-bit code before j
    have hri : (R.drop n).getD i 0 = 0 := hj0 i (by omega)
    rw [getD_drop] at hri hci
    obtain ⟨p, hp, hpd, hpc⟩ := rel.adj (n + i) (by omega)
    have hpn : n ≤ p := Nat.le_of_not_lt fun hlt => hpd (hsame p hlt)
    obtain ⟨i', rfl⟩ : ∃ i', p = n + i' := ⟨p - n, by omega⟩
    rw [hci] at hpc
    have hci' : (C.drop n).getD i' 0 = 1 := by rw [getD_drop]; exact hpc
    have hne : i' ≠ j := fun he => by
      rw [he, ← getD_drop, ← getD_drop, hj1, hcj] at hpd
      exact hpd rfl
    have hle := countEq_one_le hvd
    have hjl : j < (C.drop n).length := by omega
    have hci2 : (C.drop n).getD i 0 = 1 := by rw [getD_drop]; exact hci
    rcases hp with hp | hp
    · have := countEq_ge_three (C.drop n) 1 i' i j (by omega) hi hjl hci' hci2 hcj
      omega
    · have := countEq_ge_three (C.drop n) 1 i i' j (by omega) (by omega) hjl hci2 hci' hcj
      omega
  · exact fun _ _ h => nomatch h

theorem tables_rel (items : List RleItem) (hw : ∀ it ∈ items, it.kind = 16 → 2 ≤ it.data)
    (R : List Nat) (hR : expandRFC items = some R) (n : Nat)
    (hvl : validLengths ((expandItems items 0).take n) = true)
    (hvd : validLengths ((expandItems items 0).drop n) = true)
    {ltr dtr : List (Bits × Nat)}
    (h1 : tableFor false (R.take n) = some ltr) (h2 : tableFor true (R.drop n) = some dtr) :
    (ltr = codeTable ((expandItems items 0).take n) ∧
      SubTable dtr (codeTable ((expandItems items 0).drop n))) ∨
    (ltr = [([false], 256)] ∧
      ∀ rest, decodeSym (codeTable ((expandItems items 0).take n)) (false :: rest) = .ok (256, rest)) := by
  have rel := expand_rel items hw R hR
  generalize expandItems items 0 = C at rel hvl hvd ⊢
  have hlen : (R.take n).length = (C.take n).length := by simp [rel.len]
  have hpw : ∀ i, (R.take n).getD i 0 = (C.take n).getD i 0 ∨ (R.take n).getD i 0 = 0 := fun i => by
    rw [getD_take, getD_take]; split
    · exact rel.pw i
    · exact .inl rfl
  obtain ⟨h256, hcase⟩ := tableFor_some h1
  have h256 := h256 rfl
  rcases hcase with ⟨hk, rfl⟩ | ⟨hf, rfl⟩ | ⟨hd, _⟩
  · -- (a) complete: the literal/length halves are equal
    left
    have heq := eq_of_kraft_eq _ _ hlen hpw (hk.trans (kraft_of_valid hvl).symm)
    refine ⟨by rw [heq], ?_⟩
    have hsame : ∀ i, i < n → R.getD i 0 = C.getD i 0 := by
      intro i hi
      have := congrArg (fun l => l.getD i 0) heq
      simp only [getD_take, if_pos hi] at this
      exact this
    exact dist_tables rel n hsame hvd h2
  · -- (b) the single symbol 256
    right
    obtain ⟨hs, hs1, hs0⟩ := single_of_filter _ 1 hf
    have hs256 : (R.take n).findIdx (· ≠ 0) = 256 :=
      Decidable.byContradiction fun hne => h256 (hs0 256 fun h => hne h.symm)
    rw [hs256] at hs hs1 hs0 ⊢
    refine ⟨rfl, fun rest => ?_⟩
    have hc256 : (C.take n).getD 256 0 = 1 := by
      have := hpw 256
      omega
    refine decodeSym_first_one hvl (by omega) hc256 ?_ rest
    intro i hi hci
    -- an extra code before 256 would repeat an explicit length at a still earlier position
    have hin : i < n := Nat.lt_of_not_le fun hn => by
      rw [getD_take, if_neg (by omega)] at hci
      omega
    have hri : (R.take n).getD i 0 = 0 := hs0 i (by omega)
    rw [getD_take, if_pos hin] at hri hci
    rcases rel.src i (by omega) with h0 | ⟨e, he, he1, he2⟩
    · omega
    · have hre : (R.take n).getD e 0 = 0 := hs0 e (by omega)
      rw [getD_take, if_pos (by omega)] at hre
      omega
  · cases hd

end Preflate.Proofs.RFC

/-
The parser's side of `WellFormed`: whatever `parseBits` returns satisfies the conjuncts that
`WellFormed` adds to `StreamValid` (`BlocksCoded`), with the bit offsets the writer will be at.
-/
import Preflate.Proofs.ParseWriteBase
import Preflate.Proofs.PlainLimit
namespace Preflate.Proofs
open Preflate Preflate.Gen

theorem decodeTokens_coded (ll dl : List Nat) {fuel : Nat} {plain : Array Nat} {bs : Bits}
    {ts : List Token} {plain' : Array Nat} {rest : Bits}
    (h : decodeTokens (codeTable ll) (codeTable dl) fuel plain bs = .ok (ts, plain', rest)) :
    (∀ t ∈ ts, TokCoded ll dl t) ∧ ll.getD 256 0 ≠ 0 ∧
      bs.length = tokensBits ll dl ts + rest.length := by
  refine decodeTokens_induct (motive := fun _ _ bs ts _ rest => (∀ t ∈ ts, TokCoded ll dl t) ∧
    ll.getD 256 0 ≠ 0 ∧ bs.length = tokensBits ll dl ts + rest.length) ?_ ?_ ?_ h
  · intro _ _ bs rest _ h1
    obtain ⟨hne, l1⟩ := decodeSym_coded h1
    exact ⟨fun _ ht => absurd ht List.not_mem_nil, hne, l1⟩
  · intro _ _ bs sym bs1 ts _ rest _ h1 hlit ⟨a, b, c⟩
    obtain ⟨hne, l1⟩ := decodeSym_coded h1
    refine ⟨List.forall_mem_cons.mpr ⟨⟨hlit, hne⟩, a⟩, b, ?_⟩
    simp only [tokensBits, tokenBits]
    omega
  · intro _ _ bs lc bs1 ex bs2 dc bs3 dx bs4 ts _ rest _ h1 hlc h2 h3 hdc h4 _ ⟨a, b, c⟩
    obtain ⟨hne, l1⟩ := decodeSym_coded h1
    obtain ⟨hdne, l3⟩ := decodeSym_coded h3
    have l2 := readBits_len h2
    have l4 := readBits_len h4
    have hlen := lenCode_of hlc (readBits_ok h2).2
    have hdist := distCode_of hdc (readBits_ok h4).2
    refine ⟨List.forall_mem_cons.mpr ⟨?_, a⟩, b, ?_⟩
    · simp only [TokCoded, lenSym, NONLEN_CODE_COUNT, hlen, hdist]
      exact ⟨hne, hdne⟩
    · simp only [tokensBits, tokenBits, lenSym, NONLEN_CODE_COUNT, hlen, hdist]
      omega

theorem readRleItems_coded (cl : List Nat) (total : Nat) {fuel read : Nat} {bs : Bits}
    {items : List RleItem} {rest : Bits}
    (h : readRleItems (codeTable cl) total fuel read bs = .ok (items, rest)) :
    (∀ it ∈ items, cl.getD (itemSym it) 0 ≠ 0) ∧
      bs.length = (items.map (itemBits cl)).sum + rest.length := by
  refine readRleItems_induct (motive := fun _ bs items rest =>
    (∀ it ∈ items, cl.getD (itemSym it) 0 ≠ 0) ∧
      bs.length = (items.map (itemBits cl)).sum + rest.length) ?_ ?_ ?_ h
  · intro bs
    exact ⟨fun _ hit => absurd hit List.not_mem_nil, by simp⟩
  · intro _ bs w bs1 items rest _ h1 _ ⟨a, b⟩
    obtain ⟨hne, l1⟩ := decodeSym_coded h1
    refine ⟨List.forall_mem_cons.mpr ⟨hne, a⟩, ?_⟩
    simp only [List.map_cons, List.sum_cons, itemBits, itemSym, if_true]
    omega
  · intro _ bs w bs1 x bs2 items rest _ h1 hw _ h2 ⟨a, b⟩
    obtain ⟨hne, l1⟩ := decodeSym_coded h1
    have l2 := readBits_len h2
    have hk : ¬ w = 0 := by omega
    refine ⟨List.forall_mem_cons.mpr ⟨by simpa only [itemSym, if_neg hk] using hne, a⟩, ?_⟩
    simp only [List.map_cons, List.sum_cons, itemBits, itemSym, if_neg hk]
    omega

theorem readHeader_coded {bs : Bits} {h : Header} {rest : Bits} (hr : readHeader bs = .ok (h, rest)) :
    HeaderCoded h ∧ bs.length = headerBits h + rest.length := by
  obtain ⟨a, bs1, b, bs2, c, bs3, cl, bs4, items, h1, h2, h3, h4, hv, h6, rfl⟩ := readHeader_eq_ok.mp hr
  obtain ⟨hi, hl⟩ := readRleItems_coded _ _ h6
  have l1 := readBits_len h1
  have l2 := readBits_len h2
  have l3 := readBits_len h3
  have l4 := readCodeLengths_len h4
  exact ⟨⟨hv, hi⟩, by simp only [headerBits]; omega⟩

theorem readBlock_coded {plain : Array Nat} {bs : Bits} {last : Bool} {b : Block}
    {plain' : Array Nat} {rest : Bits} (off : Nat) (hoff : (off + bs.length) % 8 = 0)
    (h : readBlock plain bs = .ok (last, b, plain', rest)) :
    BlockCoded off plain.size b ∧ bs.length = blockBits off b + rest.length := by
  have hsz := (readBlock_valid h).2.1
  have hlim := (readBlock_limit h).2.2
  obtain ⟨l, bs1, mode, bs2, h1, h2, -, hb⟩ := readBlock_eq_ok.mp h
  have l1 := readBits_len h1
  have l2 := readBits_len h2
  cases hb with
  | @stored pad len ilen bs3 bs4 bs5 _ data h3 h4 h5 hsum hg h6 =>
    rw [mod8_eq_padCount (off + 3) _ (by omega)] at h3
    have l3 := readBits_len h3
    have l4 := readBits_len h4
    have l5 := readBits_len h5
    obtain ⟨e6, hdl⟩ := readBytes_ok h6
    have l6 := congrArg List.length e6
    rw [List.length_append, length_flatMap_bytes] at l6
    exact ⟨⟨(readBits_ok h3).2, readBytes_lt h6, hg⟩, by simp only [blockBits]; omega⟩
  | fixed h3 =>
    obtain ⟨a, _, c⟩ := decodeTokens_coded _ _ h3
    have := hlim (by intro _ _ hh; cases hh)
    exact ⟨⟨a, Nat.le_trans (Nat.le_of_eq hsz.symm) this⟩, by simp only [blockBits]; omega⟩
  | dynamic h3 h4 hv1 hv2 h5 =>
    obtain ⟨_, rfl, rfl⟩ := litDistLengths_eq_ok.mp h4
    obtain ⟨hc, l3⟩ := readHeader_coded h3
    obtain ⟨a, b, c⟩ := decodeTokens_coded _ _ h5
    have := hlim (by intro _ _ hh; cases hh)
    exact ⟨⟨hc, ⟨hv1, hv2, b, a⟩, Nat.le_trans (Nat.le_of_eq hsz.symm) this⟩,
      by simp only [blockBits]; omega⟩

theorem readBlocks_coded {fuel : Nat} {plain : Array Nat} {bs : Bits} {blocks : List Block}
    {plain' : Array Nat} {rest : Bits} (off : Nat) (hoff : (off + bs.length) % 8 = 0)
    (h : readBlocks fuel plain bs = .ok (blocks, plain', rest)) :
    ∃ n, bs.length = n + rest.length ∧
      ∀ pad, pad < 2 ^ padCount (off + n) → BlocksCoded off plain.size blocks pad := by
  refine readBlocks_induct (motive := fun _ plain bs blocks _ rest => ∀ off,
    (off + bs.length) % 8 = 0 → ∃ n, bs.length = n + rest.length ∧
      ∀ pad, pad < 2 ^ padCount (off + n) → BlocksCoded off plain.size blocks pad) ?_ ?_ h off hoff
  · intro _ plain bs b _ rest h1 off hoff
    obtain ⟨hc, hl⟩ := readBlock_coded off hoff h1
    exact ⟨blockBits off b, hl, fun pad hp => ⟨hc, hp⟩⟩
  · intro _ plain bs b plain1 bs1 r _ rest h1 ih off hoff
    obtain ⟨hc, hl⟩ := readBlock_coded off hoff h1
    obtain ⟨n, hn, hall⟩ := ih (off + blockBits off b) (by omega)
    refine ⟨blockBits off b + n, by omega, fun pad hp => ⟨hc, ?_⟩⟩
    rw [← (readBlock_valid h1).2.1]
    exact hall pad (by rw [Nat.add_assoc]; exact hp)

theorem parseBits_coded (bs : Bits) (hlen : bs.length % 8 = 0) (p : Parsed)
    (h : parseBits bs = .ok p) : BlocksCoded 0 0 p.blocks p.eofPadding := by
  obtain ⟨bs1, h1, h2⟩ := parseBits_eq_ok.mp h
  obtain ⟨n, hn, hall⟩ := readBlocks_coded 0 (by omega) h1
  rw [mod8_eq_padCount n _ (by omega)] at h2
  exact hall _ (by rw [Nat.zero_add]; exact (readBits_ok h2).2)

end Preflate.Proofs

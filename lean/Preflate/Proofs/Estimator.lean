/- The front part of the parameter estimator lands inside `EstimatorRange`'s field ranges and has no
   panic path on parsed streams (C08, C05; the defects D1 and D8 as theorems).

   The estimators walk the block list token by token, stored bytes counting as literals; the proofs
   therefore work on the flattened token list `flat blocks`. The file begins, in namespace `EstTotal`
   (Proofs/EstimateTotal*.lean build on it), by carrying validity of the block list over to `flat`;
   the facts about the estimator follow in namespace `Proofs`. -/
import Preflate.Model.Estimator
import Preflate.Model.Valid
import Preflate.Proofs.Total

namespace Preflate.Proofs.EstTotal
open Preflate Preflate.Est

/-- all blocks as one token list (stored bytes as literals) -/
def flat : List Block → List Token
  | [] => []
  | .stored _ data :: bs => data.map Token.lit ++ flat bs
  | .fixed ts :: bs => ts ++ flat bs
  | .dynamic _ ts :: bs => ts ++ flat bs

/-- a reference at `p` as `ValidTok` wants it (the irregular-258 flag aside) -/
structure VRef (plain : Array Nat) (p len dist : Nat) : Prop where
  len3 : 3 ≤ len
  len258 : len ≤ 258
  dist1 : 1 ≤ dist
  distp : dist ≤ p
  dist32k : dist ≤ 32768
  fit : p + len ≤ plain.size
  eq : matchAt plain p len dist = true

/-- the part of `ValidToks` the estimators rely on -/
def VToks (plain : Array Nat) : Nat → List Token → Prop
  | _, [] => True
  | p, .lit _ :: ts => p < plain.size ∧ VToks plain (p + 1) ts
  | p, .ref len dist _ :: ts => VRef plain p len dist ∧ VToks plain (p + len) ts

theorem VToks_of_valid (plain : Array Nat) : ∀ (ts : List Token) (p : Nat),
    ValidToks plain p ts → VToks plain p ts
  | [], _, _ => trivial
  | .lit _ :: ts, _, h => ⟨h.1.1, VToks_of_valid plain ts _ h.2⟩
  | .ref .. :: ts, _, ⟨⟨h1, h2, h3, h4, h5, h6, h7, _⟩, hr⟩ =>
      ⟨⟨h1, h2, h3, h4, h5, h6, h7⟩, VToks_of_valid plain ts _ hr⟩

theorem VToks_append (plain : Array Nat) : ∀ (a b : List Token) (p : Nat),
    VToks plain p a → VToks plain (toksEnd p a) b → VToks plain p (a ++ b)
  | [], _, _, _, hb => hb
  | .lit _ :: a, b, _, ha, hb => ⟨ha.1, VToks_append plain a b _ ha.2 hb⟩
  | .ref .. :: a, b, _, ha, hb => ⟨ha.1, VToks_append plain a b _ ha.2 hb⟩

theorem VToks_lits (plain : Array Nat) : ∀ (data : List Nat) (p : Nat), p + data.length ≤ plain.size →
    VToks plain p (data.map Token.lit) ∧ toksEnd p (data.map Token.lit) = p + data.length := by
  intro data
  induction data with
  | nil => intro p _; exact ⟨trivial, rfl⟩
  | cons d ds ih =>
    intro p h
    simp only [List.length_cons] at h
    obtain ⟨h1, h2⟩ := ih (p + 1) (by omega)
    refine ⟨⟨by omega, h1⟩, ?_⟩
    simp only [List.map_cons, toksEnd, tokenLen, h2, List.length_cons]
    omega

theorem VToks_flat (plain : Array Nat) : ∀ (bs : List Block) (p : Nat), ValidBlocks plain p bs →
    VToks plain p (flat bs) ∧ toksEnd p (flat bs) = blocksEnd p bs := by
  intro bs
  induction bs with
  | nil => intro p _; exact ⟨trivial, rfl⟩
  | cons b bs ih =>
    intro p ⟨hb, hr⟩
    obtain ⟨i1, i2⟩ := ih _ hr
    cases b with
    | stored pad data =>
      obtain ⟨h1, h2⟩ := VToks_lits plain data p hb.2.2.1
      simp only [blockEnd] at i1 i2
      refine ⟨VToks_append plain _ _ p h1 (by rw [h2]; exact i1), ?_⟩
      simp only [flat, toksEnd_append, h2, blocksEnd, blockEnd, i2]
    | fixed ts | dynamic _ ts =>
      simp only [blockEnd] at i1 i2
      refine ⟨VToks_append plain _ _ p (VToks_of_valid plain ts p hb.1) i1, ?_⟩
      simp only [flat, toksEnd_append, blocksEnd, blockEnd, i2]

theorem blockTokens_flat : ∀ (bs : List Block), ∀ b ∈ bs, ∀ t ∈ blockTokens b, t ∈ flat bs := by
  intro bs
  induction bs with
  | nil => intro b hb; cases hb
  | cons b0 bs ih =>
    intro b hb t ht
    rcases List.mem_cons.mp hb with rfl | hb'
    · cases b with
      | stored pad data => cases ht
      | fixed ts | dynamic _ ts => exact List.mem_append_left _ ht
    · cases b0 with
      | stored pad data | fixed ts | dynamic _ ts => exact List.mem_append_right _ (ih b hb' t ht)

end Preflate.Proofs.EstTotal

namespace Preflate.Proofs
open Preflate Preflate.Est

def RefOK : Token → Prop
  | .lit _ => True
  | .ref len dist _ => 3 ≤ len ∧ len ≤ 258 ∧ dist ≤ 32768

theorem EstTotal.VToks.refOK {plain : Array Nat} : ∀ {ts : List Token} {p : Nat},
    EstTotal.VToks plain p ts → ∀ t ∈ ts, RefOK t
  | .lit _ :: _, _, h, t, ht => by
    rcases List.mem_cons.mp ht with rfl | ht
    · trivial
    · exact h.2.refOK t ht
  | .ref .. :: _, _, h, t, ht => by
    rcases List.mem_cons.mp ht with rfl | ht
    · exact ⟨h.1.len3, h.1.len258, h.1.dist32k⟩
    · exact h.2.refOK t ht

/-- the only failure `estimate_add_policy` can produce -/
def addPanic : Fail := .panic "estimate_add_policy: subtract with overflow"

abbrev AddOut {α : Type} (x : R α) : Prop := Post (· = addPanic) (fun _ => True) x

theorem addLiteral_offset (s : AddState) : (addLiteral s).offset = s.offset + 1 := rfl

theorem addLiterals_offset (data : List Nat) (s : AddState) :
    (data.foldl (fun s _ => addLiteral s) s).offset = s.offset + data.length := by
  induction data generalizing s with
  | nil => rfl
  | cons d ds ih =>
    rw [List.foldl_cons, ih, addLiteral_offset, List.length_cons]; omega

theorem addTokens_append : ∀ (a b : List Token) (s : AddState),
    addTokens s (a ++ b) = (addTokens s a >>= fun s => addTokens s b)
  | [], _, _ => rfl
  | .lit _ :: a, b, s => addTokens_append a b (addLiteral s)
  | .ref len dist _ :: a, b, s => by
    simp only [List.cons_append, addTokens]
    cases addReference s len dist with
    | error e => rfl
    | ok s1 => exact addTokens_append a b s1

theorem addTokens_lits : ∀ (data : List Nat) (s : AddState),
    addTokens s (data.map Token.lit) = .ok (data.foldl (fun s _ => addLiteral s) s)
  | [], _ => rfl
  | _ :: ds, s => addTokens_lits ds (addLiteral s)

theorem addBlocks_flat : ∀ (bs : List Block) (s : AddState),
    addBlocks s bs = addTokens s (EstTotal.flat bs) := by
  intro bs
  induction bs with
  | nil => intro _; rfl
  | cons b bs ih =>
    intro s
    cases b with
    | stored pad data =>
      simp only [addBlocks, EstTotal.flat, addTokens_append, addTokens_lits, ok_bind]; exact ih _
    | fixed ts | dynamic _ ts =>
      simp only [addBlocks, EstTotal.flat, addTokens_append]
      cases addTokens s ts with
      | error e => rfl
      | ok s1 => exact ih s1

theorem addReference_ok (s : AddState) (len dist : Nat) (h : dist ≤ s.offset) :
    ∃ s', addReference s len dist = .ok s' ∧ s'.offset = s.offset + len := by
  unfold addReference
  rw [if_neg (by omega)]
  exact ⟨_, rfl, rfl⟩

theorem addTokens_ok (plain : Array Nat) : ∀ (ts : List Token) (s : AddState),
    EstTotal.VToks plain s.offset ts → ∃ s', addTokens s ts = .ok s'
  | [], s, _ => ⟨s, rfl⟩
  | .lit _ :: ts, s, hv => addTokens_ok plain ts (addLiteral s) hv.2
  | .ref len dist _ :: ts, s, hv => by
    obtain ⟨s1, h1, ho⟩ := addReference_ok s len dist hv.1.distp
    simp only [addTokens, h1, ok_bind]
    exact addTokens_ok plain ts s1 (ho ▸ hv.2)

theorem addReference_out (s : AddState) (len dist : Nat) : AddOut (addReference s len dist) := by
  fun_cases addReference s len dist
  · exact .error _ rfl
  · exact .ok _ trivial

theorem addTokens_out : ∀ (ts : List Token) (s : AddState), AddOut (addTokens s ts)
  | [], _ => .ok _ trivial
  | .lit _ :: ts, s => addTokens_out ts (addLiteral s)
  | .ref len dist _ :: ts, s => (addReference_out s len dist).seq fun s1 _ => addTokens_out ts s1

/-- the decision tail of `estimate_add_policy` -/
def addDecide (s : AddState) : Nat × Nat :=
  if s.maxLength = 0 ∧ s.block4k then (3, 0)
  else if !s.lastOutside32k then (4, 0)
  else if s.maxLengthLastAdd < s.maxLength ∧ s.maxLengthLastAdd ≤ 255 then (2, s.maxLengthLastAdd)
  else if s.maxLength ≤ 255 then (1, s.maxLength)
  else (0, 0)

theorem addPolicy_eq (blocks : List Block) :
    addPolicy blocks =
      (addTokens { window := Array.replicate 32768 0 } (EstTotal.flat blocks) >>= fun s =>
        .ok (addDecide s)) := by
  unfold addPolicy
  rw [addBlocks_flat]
  congr 1
  funext s
  simp only [addDecide, apply_ite Except.ok]

theorem addDecide_range (s : AddState) :
    (addDecide s).1 ≤ 4 ∧ (addDecide s).2 ≤ 255 ∧
      ((addDecide s).1 ≠ 1 → (addDecide s).1 ≠ 2 → (addDecide s).2 = 0) := by
  fun_cases addDecide s
  · simp
  · simp
  · next h => simp; exact h.2
  · next h => simp; exact h
  · simp

theorem addPolicy_ok_of_valid (plain : Array Nat) (blocks : List Block)
    (hv : ValidBlocks plain 0 blocks) : ∃ p, addPolicy blocks = .ok p := by
  obtain ⟨s, hs⟩ := addTokens_ok plain (EstTotal.flat blocks) { window := Array.replicate 32768 0 }
    (EstTotal.VToks_flat plain blocks 0 hv).1
  exact ⟨addDecide s, by rw [addPolicy_eq, hs, ok_bind]⟩

theorem addPolicy_out (blocks : List Block) : AddOut (addPolicy blocks) := by
  rw [addPolicy_eq]
  exact (addTokens_out ..).seq fun _ _ => .ok _ trivial

/-- the add policy is a discriminant 0..4, the limit fits the 8-bit field (D8) and
    is zero for the policies that carry none -/
theorem addPolicy_limit_fits (blocks : List Block) (pol lim : Nat)
    (h : Est.addPolicy blocks = .ok (pol, lim)) :
    pol ≤ 4 ∧ lim ≤ 255 ∧ (pol ≠ 1 → pol ≠ 2 → lim = 0) := by
  rw [addPolicy_eq, bind_eq_ok] at h
  obtain ⟨s, _, hs⟩ := h
  have hd : addDecide s = (pol, lim) := by injection hs
  have := addDecide_range s
  rw [hd] at this
  exact this

theorem strategy_cases (i : Info) :
    strategy i = 0 ∨ strategy i = 1 ∨ strategy i = 2 ∨ strategy i = 3 := by
  fun_cases strategy i <;> simp

theorem huffStrategy_le (i : Info) : huffStrategy i ≤ 2 := by
  fun_cases huffStrategy i <;> omega

theorem windowBits_range (d : Nat) : 9 ≤ windowBits d ∧ windowBits d ≤ 15 := by
  unfold windowBits; omega

theorem memLevel_range (n : Nat) : 1 ≤ memLevel n ∧ memLevel n ≤ 9 := by
  unfold memLevel; omega

theorem front_eq (blocks : List Block) :
    Est.front blocks =
      if strategy (extractInfo blocks) = 3 ∨ strategy (extractInfo blocks) = 2 then
        .ok ⟨strategy (extractInfo blocks), huffStrategy (extractInfo blocks), true, 0, 16386, 0, 0⟩
      else
        (addPolicy blocks >>= fun p =>
          .ok ⟨strategy (extractInfo blocks), huffStrategy (extractInfo blocks), false,
            windowBits (extractInfo blocks).maxDist,
            2 ^ (6 + memLevel (extractInfo blocks).maxTokensPerBlock) - 1, p.1, p.2⟩) := rfl

theorem front_ok_of_valid (plain : Array Nat) (blocks : List Block) (hv : StreamValid plain blocks) :
    ∃ f, Est.front blocks = .ok f := by
  rw [front_eq]
  split
  · exact ⟨_, rfl⟩
  · obtain ⟨p, hp⟩ := addPolicy_ok_of_valid plain blocks hv.2.1
    exact ⟨_, by rw [hp, ok_bind]⟩

/-- on what the parser returns, the estimator's front part has no panic path (the only candidate is
    the u32 subtraction `current_offset - dist` of estimate_add_policy) -/
theorem front_no_panic (plain : Array Nat) (blocks : List Block) (hv : StreamValid plain blocks) (m : String) :
    Est.front blocks ≠ .error (.panic m) := by
  obtain ⟨f, hf⟩ := front_ok_of_valid plain blocks hv
  rw [hf]
  exact nofun

theorem front_out (blocks : List Block) : AddOut (Est.front blocks) := by
  rw [front_eq]
  split
  · exact .ok _ trivial
  · exact (addPolicy_out blocks).seq fun _ _ => .ok _ trivial

/-- on every block list (valid or not) the front part either succeeds or fails with
    the one overflow panic of estimate_add_policy; there is no other failure and no fuel -/
theorem front_total (blocks : List Block) :
    (∃ f, Est.front blocks = .ok f) ∨
      Est.front blocks = .error (.panic "estimate_add_policy: subtract with overflow") :=
  (front_out blocks).ok_or_error

/-- the fields computed without the candidate hash tables are inside the ranges `EstimatorRange`
    quantifies over: strategy and Huffman strategy discriminants, the no-dictionary vector, window
    bits 9..15, block size 2^(6+m) - 1 with m in 1..9, add policy 0..4 with a limit that fits the
    8-bit field (D8) and is zero for the policies that carry none -/
theorem front_in_range (blocks : List Block) (f : Front) (h : Est.front blocks = .ok f) :
    f.strategy ≤ 3 ∧ f.huffStrategy ≤ 2 ∧
    (f.noDictionary = true → (f.strategy = 2 ∨ f.strategy = 3) ∧ f.windowBits = 0 ∧
        f.maxTokenCount = 16386 ∧ f.addPolicy = 0 ∧ f.addLimit = 0) ∧
    (f.noDictionary = false → f.strategy ≤ 1 ∧ 9 ≤ f.windowBits ∧ f.windowBits ≤ 15 ∧
        (∃ m, 1 ≤ m ∧ m ≤ 9 ∧ f.maxTokenCount = 2 ^ (6 + m) - 1) ∧
        f.addPolicy ≤ 4 ∧ f.addLimit ≤ 255 ∧ (f.addPolicy ≠ 1 → f.addPolicy ≠ 2 → f.addLimit = 0)) := by
  rw [front_eq] at h
  have hsc := strategy_cases (extractInfo blocks)
  have hhs := huffStrategy_le (extractInfo blocks)
  split at h
  · rename_i hst
    injection h with h
    subst h
    refine ⟨by simp only; omega, hhs, ?_, ?_⟩
    · intro _; exact ⟨by simp only; omega, rfl, rfl, rfl, rfl⟩
    · intro hc; cases hc
  · rename_i hst
    rw [bind_eq_ok] at h
    obtain ⟨⟨pol, lim⟩, hp, h⟩ := h
    injection h with h
    subst h
    have hpl := addPolicy_limit_fits blocks pol lim hp
    have hw := windowBits_range (extractInfo blocks).maxDist
    have hm := memLevel_range (extractInfo blocks).maxTokensPerBlock
    refine ⟨by simp only; omega, hhs, ?_, ?_⟩
    · intro hc; cases hc
    · intro _
      exact ⟨by simp only; omega, hw.1, hw.2, ⟨_, hm.1, hm.2, rfl⟩, hpl.1, hpl.2.1, hpl.2.2⟩

theorem front_policy (blocks : List Block) (f : Front) (h : Est.front blocks = .ok f)
    (hnd : f.noDictionary = false) : addPolicy blocks = .ok (f.addPolicy, f.addLimit) := by
  rw [front_eq] at h
  split at h
  · injection h with h; subst h; cases hnd
  · rw [bind_eq_ok] at h
    obtain ⟨⟨pol, lim⟩, hp, h⟩ := h
    injection h with h; subst h
    exact hp

/-- the fold step of `extract_preflate_info` -/
def infoStep (i : Info) (b : Block) : Info :=
  match b with
  | .stored _ _ => { i with countStored := i.countStored + 1 }
  | .fixed ts | .dynamic _ ts =>
      let md := blockMaxDist ts
      { i with
        countStaticHuff := i.countStaticHuff + (match b with | .fixed _ => 1 | _ => 0)
        maxTokensPerBlock := max i.maxTokensPerBlock ts.length
        maxDist := max i.maxDist md
        minLen := min i.minLen (blockMinLen ts)
        referenceCount := i.referenceCount + blockRefs ts
        countHuff := i.countHuff + (if md = 0 then 1 else 0)
        countRle := i.countRle + (if md = 1 then 1 else 0) }

theorem extractInfo_eq (blocks : List Block) :
    extractInfo blocks = blocks.foldl infoStep { countBlocks := blocks.length } := rfl

theorem infoStep_countBlocks (i : Info) (b : Block) :
    (infoStep i b).countBlocks = i.countBlocks := by
  cases b <;> rfl

theorem infoStep_sum (i : Info) (b : Block) (h : blockMaxDist (blockTokens b) = 0) :
    (infoStep i b).countHuff + (infoStep i b).countStored = i.countHuff + i.countStored + 1 := by
  cases b with
  | stored pad data => simp only [infoStep]; omega
  | fixed ts | dynamic _ ts =>
    simp only [blockTokens] at h
    simp only [infoStep, h, if_true]; omega

theorem foldl_infoStep_inv (blocks : List Block) :
    ∀ i : Info, (∀ b ∈ blocks, blockMaxDist (blockTokens b) = 0) →
      (blocks.foldl infoStep i).countBlocks = i.countBlocks ∧
      (blocks.foldl infoStep i).countHuff + (blocks.foldl infoStep i).countStored =
        i.countHuff + i.countStored + blocks.length := by
  induction blocks with
  | nil => intro i _; exact ⟨rfl, rfl⟩
  | cons b bs ih =>
    intro i h
    have hb := h b (List.mem_cons_self ..)
    have := ih (infoStep i b) (fun b' hb' => h b' (List.mem_cons_of_mem _ hb'))
    rw [List.foldl_cons, List.length_cons]
    rw [infoStep_countBlocks, infoStep_sum i b hb] at this
    exact ⟨this.1, by omega⟩

theorem strategy_no_references (blocks : List Block)
    (h : ∀ b ∈ blocks, blockMaxDist (blockTokens b) = 0) :
    strategy (extractInfo blocks) = 3 ∨ strategy (extractInfo blocks) = 2 := by
  have hinv := foldl_infoStep_inv blocks { countBlocks := blocks.length } h
  rw [← extractInfo_eq] at hinv
  have h2 : (extractInfo blocks).countHuff + (extractInfo blocks).countStored =
      (extractInfo blocks).countBlocks := by
    rw [hinv.1, hinv.2]; simp
  unfold strategy
  by_cases hc : (extractInfo blocks).countStored = (extractInfo blocks).countBlocks
  · left; rw [if_pos hc]
  · right; rw [if_neg hc, if_pos h2]

/-- D1 regression: a stream without any reference (stored and match-free Huffman blocks in any mix)
    is estimated as Store or HuffOnly, i.e. takes the no-dictionary path on which `min_len` is not
    used (it was left at u32::MAX and `write` panicked) -/
theorem no_references_no_dictionary (blocks : List Block)
    (h : ∀ b ∈ blocks, blockMaxDist (blockTokens b) = 0) (f : Front) (hf : Est.front blocks = .ok f) :
    f.noDictionary = true := by
  rw [front_eq, if_pos (strategy_no_references blocks h)] at hf
  injection hf with hf
  subst hf
  rfl

theorem blockMaxDist_lits (ts : List Token) (h : ∀ len dist irr, Token.ref len dist irr ∉ ts) :
    blockMaxDist ts = 0 := by
  unfold blockMaxDist
  generalize 0 = m
  induction ts generalizing m with
  | nil => rfl
  | cons t ts ih =>
    cases t with
    | lit b => exact ih (fun l d i hm => h l d i (List.mem_cons_of_mem _ hm)) m
    | ref l d i => exact absurd List.mem_cons_self (h l d i)

theorem dictionary_has_reference (blocks : List Block) (f : Front) (hf : Est.front blocks = .ok f)
    (hnd : f.noDictionary = false) : ∃ len dist irr, Token.ref len dist irr ∈ EstTotal.flat blocks := by
  apply Classical.byContradiction
  intro hne
  have := no_references_no_dictionary blocks (fun b hb => blockMaxDist_lits _ fun l d i hm =>
    hne ⟨l, d, i, EstTotal.blockTokens_flat blocks b hb _ hm⟩) f hf
  rw [hnd] at this
  cases this

def minStep (m : Nat) (t : Token) : Nat := match t with | .ref l _ _ => min m l | .lit _ => m

theorem foldl_minStep (ts : List Token) : ∀ m : Nat,
    (∀ len dist irr, Token.ref len dist irr ∈ ts → ts.foldl minStep m ≤ len) ∧ ts.foldl minStep m ≤ m ∧
    ∀ k, k ≤ m → (∀ len dist irr, Token.ref len dist irr ∈ ts → k ≤ len) → k ≤ ts.foldl minStep m := by
  induction ts with
  | nil => intro m; exact ⟨fun _ _ _ h => (nomatch h), Nat.le_refl _, fun _ h _ => h⟩
  | cons t ts ih =>
    intro m
    obtain ⟨i1, i2, i3⟩ := ih (minStep m t)
    have hle : minStep m t ≤ m := by
      cases t with
      | lit b => exact Nat.le_refl _
      | ref l d i => exact Nat.min_le_left _ _
    refine ⟨?_, Nat.le_trans i2 hle, ?_⟩
    · intro len dist irr hmem
      rcases List.mem_cons.mp hmem with rfl | hmem
      · exact Nat.le_trans i2 (Nat.min_le_right _ _)
      · exact i1 len dist irr hmem
    · intro k hk hall
      refine i3 k ?_ (fun len dist irr hmem => hall len dist irr (List.mem_cons_of_mem _ hmem))
      cases t with
      | lit b => exact hk
      | ref l d i => exact Nat.le_min.mpr ⟨hk, hall l d i List.mem_cons_self⟩

theorem foldl_infoStep_minLen (bs : List Block) : ∀ i : Info,
    (∀ len dist irr, Token.ref len dist irr ∈ EstTotal.flat bs → (bs.foldl infoStep i).minLen ≤ len) ∧
    (bs.foldl infoStep i).minLen ≤ i.minLen ∧
    ∀ k, k ≤ i.minLen → k ≤ 4294967295 →
      (∀ len dist irr, Token.ref len dist irr ∈ EstTotal.flat bs → k ≤ len) →
      k ≤ (bs.foldl infoStep i).minLen := by
  induction bs with
  | nil => intro i; exact ⟨fun _ _ _ h => (nomatch h), Nat.le_refl _, fun _ h _ _ => h⟩
  | cons b bs ih =>
    intro i
    obtain ⟨i1, i2, i3⟩ := ih (infoStep i b)
    cases b with
    | stored pad data =>
      have hmem : ∀ len dist irr, Token.ref len dist irr ∈ EstTotal.flat (.stored pad data :: bs) →
          Token.ref len dist irr ∈ EstTotal.flat bs := by
        intro len dist irr h
        rcases List.mem_append.mp h with h | h
        · obtain ⟨_, _, hx⟩ := List.mem_map.mp h
          cases hx
        · exact h
      exact ⟨fun l d r h => i1 l d r (hmem l d r h), i2,
        fun k hk hu hall => i3 k hk hu fun l d r h => hall l d r (List.mem_append_right _ h)⟩
    | fixed ts | dynamic _ ts =>
      obtain ⟨t1, _, t3⟩ := foldl_minStep ts 4294967295
      refine ⟨?_, Nat.le_trans i2 (Nat.min_le_left _ _), ?_⟩
      · intro len dist irr h
        rcases List.mem_append.mp h with h | h
        · exact Nat.le_trans i2 (Nat.le_trans (Nat.min_le_right _ _) (t1 len dist irr h))
        · exact i1 len dist irr h
      · intro k hk hu hall
        refine i3 k (Nat.le_min.mpr ⟨hk, t3 k hu fun l d r h => hall l d r (List.mem_append_left _ h)⟩) hu
          fun l d r h => hall l d r (List.mem_append_right _ h)

/-- `min_len` is a lower bound of the reference lengths of the stream, and the greatest one below
    `u32::MAX` -/
theorem extractInfo_minLen (blocks : List Block) :
    (∀ len dist irr, Token.ref len dist irr ∈ EstTotal.flat blocks → (extractInfo blocks).minLen ≤ len) ∧
    ∀ k, k ≤ 4294967295 → (∀ len dist irr, Token.ref len dist irr ∈ EstTotal.flat blocks → k ≤ len) →
      k ≤ (extractInfo blocks).minLen := by
  obtain ⟨h1, _, h3⟩ := foldl_infoStep_minLen blocks { countBlocks := blocks.length }
  exact ⟨h1, fun k hk => h3 k hk hk⟩

end Preflate.Proofs

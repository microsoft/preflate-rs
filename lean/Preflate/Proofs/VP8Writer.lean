/-
VP8 bool coder, encoder side: the 32-bit writer refines an exact (unbounded) interval coder.
  * a writer state stands for the interval [`WV`, `WV + range`) · 2^-(`WT` + 8): buffer and `low` read as
    one number, `WT` the number of normalisation shifts so far (`WInv` says the fields fit this reading);
  * `carry` adds one to the big-endian number held in the buffer;
  * `putCore_spec` / `putSplit_spec`: one coding step narrows the exact interval to the chosen part and
    scales it by 2^shift (`Step`);
  * `Final`: a byte string, read as a binary fraction, lies in the interval of a writer state; it then
    lies in the interval of every earlier state (`final_back`), in the part each step chose
    (`Step.within`).
-/
import Preflate.Proofs.VP8Arith
namespace Preflate.Proofs
open Preflate Preflate.VP8

theorem u8_succ (a : UInt8) (h : a ≠ 255) : (a + 1).toNat = a.toNat + 1 := by
  have := a.toNat_lt
  have : a.toNat ≠ 255 := fun e => h (UInt8.toNat_inj.1 e)
  rw [UInt8.toNat_add]
  show (a.toNat + 1) % 256 = _
  omega

theorem getD_mid (buf : Array UInt8) (pre suf : List UInt8) (a : UInt8)
    (h : buf.toList = pre ++ a :: suf) : buf.getD pre.length 0 = a := by
  rw [Array.getD_eq_getD_getElem?, ← Array.getElem?_toList, h]
  simp

theorem set_mid (buf : Array UInt8) (pre suf : List UInt8) (a v : UInt8)
    (h : buf.toList = pre ++ a :: suf) : (buf.set! pre.length v).toList = pre ++ v :: suf := by
  rw [Array.set!_eq_setIfInBounds, Array.toList_setIfInBounds, h]
  simp

theorem carry_spec (x : Nat) : ∀ (buf : Array UInt8) (pre suf : List UInt8),
    buf.toList = pre ++ suf → pre.length = x + 1 → bval pre + 1 < 256 ^ (x + 1) →
    ∃ pre', (carry buf x).toList = pre' ++ suf ∧ pre'.length = x + 1 ∧ bval pre' = bval pre + 1 := by
  induction x with
  | zero =>
    intro buf pre suf h hl hv
    obtain ⟨a, rfl⟩ := List.length_eq_one_iff.1 hl
    have ha : a ≠ 255 := by rintro rfl; exact absurd hv (by decide)
    have hg : buf.getD 0 0 = a := getD_mid buf [] suf a h
    refine ⟨[a + 1], ?_, rfl, ?_⟩
    · simp only [carry, hg, beq_iff_eq, ha, if_false]
      exact set_mid buf [] suf a _ h
    · rw [bval_cons, bval_cons, u8_succ a ha]; simp
  | succ x ih =>
    intro buf pre suf h hl hv
    obtain ⟨pre0, a, rfl⟩ : ∃ pre0 a, pre = pre0 ++ [a] := by
      rcases List.eq_nil_or_concat pre with h0 | ⟨l, b, hb⟩
      · subst h0; simp at hl
      · exact ⟨l, b, by simpa using hb⟩
    have hl0 : pre0.length = x + 1 := by simpa using hl
    rw [List.append_assoc] at h
    have hg := hl0 ▸ getD_mid buf pre0 suf a h
    have hs := fun v => hl0 ▸ set_mid buf pre0 suf a v h
    rw [bval_append_single] at hv ⊢
    by_cases ha : a = 255
    · subst ha
      have hb0 := hl0 ▸ bval_lt pre0
      obtain ⟨pre', e1, e2, e3⟩ := ih (buf.set! (x + 1) 0) pre0 (0 :: suf) (hs 0) hl0
        (by rw [Nat.pow_succ] at hv; have : (255 : UInt8).toNat = 255 := rfl; omega)
      refine ⟨pre' ++ [0], ?_, by simp [e2], ?_⟩
      · simp only [carry, hg, beq_self_eq_true, if_true]; rw [e1]; simp
      · rw [bval_append_single, e3]; show _ * 256 + 0 = _ * 256 + 255 + 1; omega
    · refine ⟨pre0 ++ [a + 1], ?_, by simp [hl0], ?_⟩
      · simp only [carry, hg, beq_iff_eq, ha, if_false]; rw [hs]; simp
      · rw [bval_append_single, u8_succ a ha]; omega

def aval (a : Array UInt8) : Nat := bval a.toList

theorem aval_push (a : Array UInt8) (b : UInt8) : aval (a.push b) = aval a * 256 + b.toNat := by
  simp [aval, bval_append_single]

theorem carry_aval (buf : Array UInt8) (h : aval buf + 1 < 256 ^ buf.size) :
    aval (carry buf (buf.size - 1)) = aval buf + 1 ∧ (carry buf (buf.size - 1)).size = buf.size := by
  have hn : 0 < buf.size := by
    rcases Nat.eq_zero_or_pos buf.size with h0 | h0
    · rw [h0] at h; simp at h
    · exact h0
  have hl : buf.toList.length = buf.size - 1 + 1 := by simp; omega
  obtain ⟨pre', e1, e2, e3⟩ := carry_spec (buf.size - 1) buf buf.toList [] (by simp) hl
    (by rw [show buf.size - 1 + 1 = buf.size by omega]; exact h)
  constructor
  · simp only [aval]; rw [e1]; simpa using e3
  · have := congrArg List.length e1
    simp at this; omega

/-- the part of `putSplit` after the choice of the sub-interval -/
def putCore (w : Writer) (low range : Nat) : Writer :=
  let shift0 := lz8 range
  let range := u32 (range <<< shift0)
  let count : Int := w.bitsLeft + shift0
  if count ≥ 0 then
    let offset := (Int.ofNat shift0 - count).toNat
    let buffer := if (u32 (low <<< (offset - 1))) &&& 0x80000000 ≠ 0 then carry w.buffer (w.buffer.size - 1) else w.buffer
    let buffer := buffer.push (UInt8.ofNat ((low >>> (24 - offset)) % 256))
    let low := (u32 (low <<< offset)) &&& 0xffffff
    let shift := count.toNat
    { low := u32 (low <<< shift), range := range, bitsLeft := count - 8, buffer := buffer }
  else
    { low := u32 (low <<< shift0), range := range, bitsLeft := count, buffer := w.buffer }

theorem putSplit_eq_core (w : Writer) (b : Bool) (s : Nat) :
    w.putSplit b s = putCore w (if b then u32 (w.low + s) else w.low) (if b then w.range - s else s) := by
  cases b <;> rfl

theorem putCore_noout (w : Writer) (low range k : Nat) (hk : w.bitsLeft = (k:Int) - 24)
    (h : k + lz8 range < 24) :
    putCore w low range =
      { low := u32 (low <<< lz8 range), range := u32 (range <<< lz8 range),
        bitsLeft := ((k + lz8 range : Nat) : Int) - 24, buffer := w.buffer } := by
  simp only [putCore, show ¬ (w.bitsLeft + (lz8 range : Int) ≥ 0) by omega, if_false]
  congr 1
  omega

theorem putCore_out (w : Writer) (low range k : Nat) (hk : w.bitsLeft = (k:Int) - 24)
    (hk24 : k < 24) (h : 24 ≤ k + lz8 range) :
    putCore w low range =
      { low := u32 ((u32 (low <<< (24 - k)) &&& 0xffffff) <<< (k + lz8 range - 24)),
        range := u32 (range <<< lz8 range),
        bitsLeft := ((k + lz8 range - 24 : Nat) : Int) - 8,
        buffer := (if u32 (low <<< (23 - k)) &&& 0x80000000 ≠ 0 then carry w.buffer (w.buffer.size - 1)
          else w.buffer).push (UInt8.ofNat ((low >>> k) % 256)) } := by
  have ho : (Int.ofNat (lz8 range) - (w.bitsLeft + (lz8 range : Int))).toNat = 24 - k := by
    rw [hk]; simp only [Int.ofNat_eq_natCast]; omega
  have hs : (w.bitsLeft + (lz8 range : Int)).toNat = k + lz8 range - 24 := by omega
  simp only [putCore, show w.bitsLeft + (lz8 range : Int) ≥ 0 by omega, if_true, ho, hs,
    show 24 - k - 1 = 23 - k by omega, show 24 - (24 - k) = k by omega]
  congr 1
  omega

/-- bits shifted since the last byte boundary, biased: `bitsLeft + 24` -/
def Wk (w : Writer) : Nat := (w.bitsLeft + 24).toNat
/-- exact low end of the interval: the buffer (as a number) followed by `low` -/
def WV (w : Writer) : Nat := aval w.buffer * 2 ^ (Wk w + 8) + w.low
/-- total number of normalisation shifts so far -/
def WT (w : Writer) : Nat := 8 * w.buffer.size + Wk w

structure WInv (w : Writer) : Prop where
  r_lo : 128 ≤ w.range
  r_hi : w.range ≤ 255
  bl : w.bitsLeft = (Wk w : Int) - 24
  k_lt : Wk w < 24
  /-- `low` holds the bits not yet sent and at most one carry bit above them -/
  low_bd : w.low + w.range ≤ 2 ^ (Wk w + 9)
  /-- the interval lies below 1, so a carry never runs off the front of the buffer (the assert in
      `send_to_output`) -/
  glob : WV w + w.range ≤ 2 ^ (WT w + 8)

/-- what one step does to the exact quantities when it narrows the interval to the part of width
    `range1` at offset `x`; `nocarry` says when bit `Wk + 8` of the new `low` is clear (for `finish`) -/
structure Step (w w' : Writer) (x range1 : Nat) : Prop where
  inv : WInv w'
  shift_le : lz8 range1 ≤ 7
  range_eq : w'.range = range1 * 2 ^ lz8 range1
  WT_eq : WT w' = WT w + lz8 range1
  WV_eq : WV w' = (WV w + x) * 2 ^ lz8 range1
  nocarry : w.low + x < 2 ^ (Wk w + 8) ∨ w'.buffer.size ≠ w.buffer.size → w'.low < 2 ^ (Wk w' + 8)

/-- `Step` from the fields of `w'`, given its bit position `k'`: the new interval lies inside the old
    one, so the bound on the buffer (`glob`) carries over -/
theorem Step.intro {w w' : Writer} {x range1 : Nat} (k' : Nat) (hw : WInv w) (hr1 : 0 < range1)
    (hx : x + range1 ≤ w.range)
    (hB : w'.bitsLeft = (k' : Int) - 24) (hk' : k' < 24)
    (hR : w'.range = range1 * 2 ^ lz8 range1)
    (hT : 8 * w'.buffer.size + k' = WT w + lz8 range1)
    (hV : aval w'.buffer * 2 ^ (k' + 8) + w'.low = (WV w + x) * 2 ^ lz8 range1)
    (hL : w'.low + w'.range ≤ 2 ^ (k' + 9))
    (hC : w.low + x < 2 ^ (Wk w + 8) ∨ w'.buffer.size ≠ w.buffer.size → w'.low < 2 ^ (k' + 8)) :
    Step w w' x range1 := by
  obtain ⟨hsh, hr_lo, hr_hi⟩ := lz8_spec range1 hr1 (by have := hw.r_hi; omega)
  obtain rfl : Wk w' = k' := by simp only [Wk]; omega
  refine ⟨⟨hR ▸ hr_lo, hR ▸ hr_hi, hB, hk', hL, ?_⟩, hsh, hR, hT, hV, hC⟩
  rw [WV, hV, WT, hT, hR, ← Nat.add_mul, Nat.add_right_comm (WT w), Nat.pow_add]
  exact Nat.mul_le_mul_right _ (by have := hw.glob; omega)

/-- the buffer after the carry test of `send_to_output`: bit `Wk + 8` of `low1` has been added in -/
theorem carry_buffer (w : Writer) (low1 : Nat) (hw : WInv w) (hlow : low1 < 2 ^ (Wk w + 9))
    (hhi : low1 < w.low + w.range) :
    ∃ bf, (if u32 (low1 <<< (23 - Wk w)) &&& 0x80000000 ≠ 0 then carry w.buffer (w.buffer.size - 1)
      else w.buffer) = bf ∧ aval bf = aval w.buffer + low1 / 2 ^ Wk w / 256 ∧ bf.size = w.buffer.size := by
  have hk := hw.k_lt
  have hq : low1 / 2 ^ Wk w < 512 := by
    rw [Nat.div_lt_iff_lt_mul (Nat.two_pow_pos _), Nat.mul_comm]; exact Nat.pow_add 2 _ 9 ▸ hlow
  have hcb := carry_bit low1 _ (by omega) hlow
  by_cases hc : 256 ≤ low1 / 2 ^ Wk w
  · rw [if_pos (hcb.2 hc)]
    have h1 := (Nat.le_div_iff_mul_le (Nat.two_pow_pos _)).1 hc
    have hP : (2:Nat) ^ (Wk w + 8) = 2 ^ Wk w * 256 := Nat.pow_add 2 _ 8
    have hg := hw.glob
    rw [WV, WT, Nat.add_assoc (8 * _), Nat.pow_add 2 (8 * _), Nat.pow_mul] at hg
    have : (aval w.buffer + 1) * 2 ^ (Wk w + 8) < (2 ^ 8) ^ w.buffer.size * 2 ^ (Wk w + 8) := by
      rw [Nat.add_mul, Nat.one_mul]; omega
    obtain ⟨c1, c2⟩ := carry_aval w.buffer (Nat.lt_of_mul_lt_mul_right this)
    refine ⟨_, rfl, ?_, c2⟩
    generalize low1 / 2 ^ Wk w = q at hq hc ⊢
    omega
  · rw [if_neg (fun hh => hc (hcb.1 hh))]
    exact ⟨_, rfl, by rw [Nat.div_eq_of_lt (by omega)]; rfl, rfl⟩

theorem putCore_spec (w : Writer) (x range1 : Nat) (hw : WInv w) (hr1 : 0 < range1)
    (hx : x + range1 ≤ w.range) : Step w (putCore w (w.low + x) range1) x range1 := by
  obtain ⟨hsh, hr_lo, hr_hi⟩ := lz8_spec range1 hr1 (by have := hw.r_hi; omega)
  have hk := hw.k_lt
  have hlb := hw.low_bd
  have hlow : w.low + x < 2 ^ (Wk w + 9) := by omega
  have e_rng : u32 (range1 <<< lz8 range1) = range1 * 2 ^ lz8 range1 := by
    rw [Nat.shiftLeft_eq]; exact Nat.mod_eq_of_lt (by omega)
  by_cases h : Wk w + lz8 range1 < 24
  · rw [putCore_noout w _ range1 _ hw.bl h, shl_u32 _ _ _ hlow (by omega), e_rng]
    refine Step.intro (Wk w + lz8 range1) hw hr1 hx rfl h rfl (by simp only [WT]; omega) ?_ ?_
      fun hc => ?_
    · rw [WV, Nat.add_assoc (aval w.buffer * _), Nat.add_mul (aval w.buffer * _), Nat.mul_assoc,
        ← Nat.pow_add, Nat.add_right_comm (Wk w)]
    · rw [← Nat.add_mul, Nat.add_right_comm (Wk w), Nat.pow_add 2 (Wk w + 9)]
      exact Nat.mul_le_mul_right _ (by omega)
    · rw [Nat.add_right_comm, Nat.pow_add]
      exact Nat.mul_lt_mul_of_pos_right (hc.resolve_right (not_not_intro rfl)) (Nat.two_pow_pos _)
  · have h24 : 24 ≤ Wk w + lz8 range1 := Nat.le_of_not_lt h
    obtain ⟨bf, hbf, hbfv, hbfs⟩ := carry_buffer w _ hw hlow
      (Nat.add_lt_add_left (Nat.lt_of_lt_of_le (Nat.lt_add_of_pos_right hr1) hx) _)
    rw [putCore_out w _ range1 _ hw.bl hk h24, low_rest_shift _ _ _ (Nat.le_of_lt hk) h24 (by omega), e_rng, hbf]
    have hbyte : (UInt8.ofNat (((w.low + x) >>> Wk w) % 256)).toNat = (w.low + x) / 2 ^ Wk w % 256 := by
      rw [UInt8.toNat_ofNat', Nat.shiftRight_eq_div_pow]; exact Nat.mod_mod _ 256
    have hlt : (w.low + x) % 2 ^ Wk w * 2 ^ lz8 range1 < 2 ^ (Wk w + lz8 range1 - 8 + 8) := by
      rw [Nat.sub_add_cancel (by omega), Nat.pow_add]
      exact Nat.mul_lt_mul_of_pos_right (Nat.mod_lt _ (Nat.two_pow_pos _)) (Nat.two_pow_pos _)
    refine Step.intro (Wk w + lz8 range1 - 8) hw hr1 hx (by simp only; omega) (by omega) rfl
      (by simp only [Array.size_push, hbfs, WT]; omega) ?_ ?_ fun _ => hlt
    · simp only
      rw [aval_push, hbyte, hbfv, WV, Nat.add_assoc]
      exact byte_out (aval w.buffer) (w.low + x) (Wk w) (lz8 range1) (by omega)
    · have : (2:Nat) ^ 8 ≤ 2 ^ (Wk w + lz8 range1 - 8 + 8) := Nat.pow_le_pow_right (by decide) (by omega)
      rw [Nat.pow_succ]
      simp only at hlt ⊢
      omega

theorem putSplit_spec (w : Writer) (b : Bool) (s : Nat) (hw : WInv w) (hs : 0 < s ∧ s < w.range) :
    Step w (w.putSplit b s) (if b then s else 0) (if b then w.range - s else s) := by
  rw [putSplit_eq_core]
  cases b
  · exact putCore_spec w 0 s hw hs.1 (by omega)
  · have h32 : (2:Nat) ^ (Wk w + 9) ≤ 2 ^ 32 := Nat.pow_le_pow_right (by decide) (by have := hw.k_lt; omega)
    have hu : u32 (w.low + s) = w.low + s := Nat.mod_eq_of_lt (by have := hw.low_bd; omega)
    simp only [if_true, hu]
    exact putCore_spec w s (w.range - s) hw (by omega) (by omega)

/-- `out`, read as a binary fraction, lies in the part of width `r` at offset `x` of the interval of
    `w`, and `out` is long enough that a decoder positioned at `w` never runs out of input -/
def Within (w : Writer) (out : Array UInt8) (x r : Nat) : Prop :=
  ∃ δ, 8 * out.size = WT w + 8 + δ ∧ (WV w + x) * 2 ^ δ ≤ aval out ∧ aval out < (WV w + x + r) * 2 ^ δ

def Final (w : Writer) (out : Array UInt8) : Prop := Within w out 0 w.range

/-- a decoder positioned at `w` has enough input left -/
theorem Final.len {w : Writer} {out : Array UInt8} (h : Final w out) : WT w + 8 ≤ 8 * out.size := by
  obtain ⟨δ, h1, _⟩ := h; omega

theorem Within.final {w : Writer} {out : Array UInt8} {x r : Nat} (h : Within w out x r)
    (hx : x + r ≤ w.range) : Final w out := by
  obtain ⟨δ, hsz, hlo, hhi⟩ := h
  refine ⟨δ, hsz, Nat.le_trans (Nat.mul_le_mul_right _ (by omega)) hlo,
    Nat.lt_of_lt_of_le hhi (Nat.mul_le_mul_right _ (by omega))⟩

theorem Step.within {w w' : Writer} {out : Array UInt8} {x r : Nat} (h : Step w w' x r)
    (hf : Final w' out) : Within w out x r := by
  obtain ⟨δ, hsz, hlo, hhi⟩ := hf
  rw [h.WV_eq, Nat.add_zero] at hlo hhi
  rw [h.range_eq, ← Nat.add_mul] at hhi
  refine ⟨lz8 r + δ, by rw [hsz, h.WT_eq]; omega, ?_, ?_⟩
  · rwa [Nat.pow_add, ← Nat.mul_assoc]
  · rwa [Nat.pow_add, ← Nat.mul_assoc]

theorem final_back (w : Writer) (b : Bool) (s : Nat) (out : Array UInt8) (hw : WInv w)
    (hs : 0 < s ∧ s < w.range) (hf : Final (w.putSplit b s) out) : Final w out :=
  ((putSplit_spec w b s hw hs).within hf).final (by cases b <;> simp <;> omega)

end Preflate.Proofs

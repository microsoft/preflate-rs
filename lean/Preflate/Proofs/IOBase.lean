/-
C13. What one `read` / `write` does under a schedule; the outcome predicates `SrcPost` / `SnkPost` /
`FullPost`, which say how a streaming call relates to its in-memory counterpart, with their rules for
sequencing.
-/
import Preflate.Model.IO
import Preflate.Proofs.Except
namespace Preflate.Proofs
open Preflate

theorem onlyShort_of_suffix {l l' : List IoEv} (h : l' <:+ l) (ho : OnlyShort l) : OnlyShort l' :=
  fun e he => ho e (h.subset he)

theorem not_onlyShort_of_suffix {l l' : List IoEv} (h : l' <:+ l) (hb : ¬ OnlyShort l') : ¬ OnlyShort l :=
  fun ho => hb (onlyShort_of_suffix h ho)

theorem nozero_of_suffix {l l' : List IoEv} (h : l' <:+ l) (hz : IoEv.zero ∉ l) : IoEv.zero ∉ l' :=
  fun he => hz (h.subset he)

theorem onlyShort_nozero {l : List IoEv} (ho : OnlyShort l) : IoEv.zero ∉ l := by
  intro h
  obtain ⟨k, hk⟩ := ho _ h
  cases hk

theorem not_onlyShort_cons {e : IoEv} {l : List IoEv} (he : ∀ k, e ≠ .short k) : ¬ OnlyShort (e :: l) := by
  intro ho
  obtain ⟨k, hk⟩ := ho e (List.mem_cons_self)
  exact he k hk

theorem read_cases (s : Source) (n : Nat) (hz : IoEv.zero ∉ s.sched) :
    (s.read n).2.sched <:+ s.sched ∧
    ((∃ m, min 1 n ≤ m ∧ m ≤ n ∧ (s.read n).1 = .ok (s.data.take m) ∧ (s.read n).2.data = s.data.drop m) ∨
     ((s.read n).1 = .error .interrupted ∧ (s.read n).2.data = s.data ∧
        (s.read n).2.sched.length < s.sched.length ∧ ¬ OnlyShort s.sched) ∨
     ((s.read n).1 = .error .other ∧ ¬ OnlyShort s.sched)) := by
  obtain ⟨data, sched⟩ := s
  cases sched with
  | nil => exact ⟨List.suffix_refl _, .inl ⟨n, Nat.min_le_right _ _, Nat.le_refl _, rfl, rfl⟩⟩
  | cons e rest =>
    cases e with
    | short k =>
      exact ⟨List.suffix_cons _ _, .inl ⟨min (max k 1) n, by omega, Nat.min_le_right _ _, rfl, rfl⟩⟩
    | interrupted =>
      exact ⟨List.suffix_cons _ _,
        .inr (.inl ⟨rfl, rfl, Nat.lt_succ_self _, not_onlyShort_cons (by intro k; simp)⟩)⟩
    | error => exact ⟨List.suffix_cons _ _, .inr (.inr ⟨rfl, not_onlyShort_cons (by intro k; simp)⟩)⟩
    | zero => simp at hz

theorem write_cases (k : Sink) (buf : Bytes) (hb : buf ≠ []) :
    (k.write buf).2.sched <:+ k.sched ∧
    ((∃ m, 1 ≤ m ∧ m ≤ buf.length ∧ (k.write buf).1 = .ok m ∧ (k.write buf).2.out = k.out ++ buf.take m) ∨
     ((k.write buf).2.out = k.out ∧ (k.write buf).2.sched.length < k.sched.length ∧ ¬ OnlyShort k.sched ∧
        ((k.write buf).1 = .ok 0 ∨ (k.write buf).1 = .error .interrupted ∨ (k.write buf).1 = .error .other))) := by
  have hl : 1 ≤ buf.length := List.length_pos_iff.mpr hb
  obtain ⟨out, sched⟩ := k
  cases sched with
  | nil => exact ⟨List.suffix_refl _, .inl ⟨buf.length, hl, Nat.le_refl _, rfl, by simp [Sink.write]⟩⟩
  | cons e rest =>
    cases e with
    | short n =>
      exact ⟨List.suffix_cons _ _, .inl ⟨min (max n 1) buf.length, by omega, Nat.min_le_right _ _, rfl, rfl⟩⟩
    | interrupted =>
      exact ⟨List.suffix_cons _ _, .inr ⟨rfl, Nat.lt_succ_self _, not_onlyShort_cons (by intro k; simp),
        .inr (.inl rfl)⟩⟩
    | error =>
      exact ⟨List.suffix_cons _ _, .inr ⟨rfl, Nat.lt_succ_self _, not_onlyShort_cons (by intro k; simp),
        .inr (.inr rfl)⟩⟩
    | zero =>
      exact ⟨List.suffix_cons _ _, .inr ⟨rfl, Nat.lt_succ_self _, not_onlyShort_cons (by intro k; simp),
        .inl rfl⟩⟩

/-- outcome of a call on source `s` whose in-memory counterpart returns `v` and leaves `rest`: provided
    the schedule never reports end of data early, the call uses up part of the schedule and either returns
    `v` with `rest` left, or fails with an ordinary error, which takes an item that is not `short` -/
def SrcPost {α : Type} (s : Source) (v : α) (rest : Bytes) (x : R α × Source) : Prop :=
  IoEv.zero ∉ s.sched → x.2.sched <:+ s.sched ∧
    ((x.1 = .ok v ∧ x.2.data = rest) ∨ (x.1 = .error .err ∧ ¬ OnlyShort s.sched))

/-- outcome of a call on sink `k` whose in-memory counterpart emits `out`: all of it is appended, or the
    call fails with an ordinary error, having appended a prefix -/
def SnkPost (k : Sink) (out : Bytes) (x : R Unit × Sink) : Prop :=
  x.2.sched <:+ k.sched ∧
    ((x.1 = .ok () ∧ x.2.out = k.out ++ out) ∨
     (x.1 = .error .err ∧ ¬ OnlyShort k.sched ∧ ∃ p, p <+: out ∧ x.2.out = k.out ++ p))

def FullPost {α : Type} (s : Source) (k : Sink) (v : α) (rest out : Bytes) (x : R α × Source × Sink) : Prop :=
  IoEv.zero ∉ s.sched → x.2.1.sched <:+ s.sched ∧ x.2.2.sched <:+ k.sched ∧
    ((x.1 = .ok v ∧ x.2.1.data = rest ∧ x.2.2.out = k.out ++ out) ∨
     (x.1 = .error .err ∧ ¬ (OnlyShort s.sched ∧ OnlyShort k.sched) ∧ ∃ p, p <+: out ∧ x.2.2.out = k.out ++ p))

theorem SrcPost.pure {α : Type} {s : Source} {v : α} {rest : Bytes} (h : s.data = rest) :
    SrcPost s v rest (.ok v, s) :=
  fun _ => ⟨List.suffix_refl _, .inl ⟨rfl, h⟩⟩

theorem SnkPost.pure {k : Sink} : SnkPost k [] (.ok (), k) :=
  ⟨List.suffix_refl _, .inl ⟨rfl, (List.append_nil _).symm⟩⟩

theorem FullPost.pure {α : Type} {s : Source} {k : Sink} {v : α} {rest : Bytes} (h : s.data = rest) :
    FullPost s k v rest [] (.ok v, s, k) :=
  fun _ => ⟨List.suffix_refl _, List.suffix_refl _, .inl ⟨rfl, h, (List.append_nil _).symm⟩⟩

/- Sequencing. The model threads its state by hand: `match x with | (.ok a, s) => … | (.error e, s) => (.error e, s)`
   with `x` a call. If `x` has its outcome and the whole expression `y` has its outcome once `x` is known to
   have returned, then `y` has its outcome; that `y` passes an error of `x` on is seen by rewriting. -/

theorem SrcPost.bind {α β : Type} {s : Source} {v : α} {w : β} {rest rest' : Bytes} {x : R α × Source}
    {y : R β × Source} (hx : SrcPost s v rest x)
    (hok : ∀ s1, x = (.ok v, s1) → s1.data = rest → SrcPost s1 w rest' y)
    (herr : ∀ s1, x = (.error .err, s1) → y = (.error .err, s1) := by intro _ h; rw [h]) :
    SrcPost s w rest' y := by
  intro hz
  obtain ⟨r, s1⟩ := x
  obtain ⟨hs, ⟨rfl, hd⟩ | ⟨rfl, hb⟩⟩ := hx hz
  · obtain ⟨hs', h⟩ := hok s1 rfl hd (nozero_of_suffix hs hz)
    exact ⟨hs'.trans hs, h.imp id fun h => ⟨h.1, not_onlyShort_of_suffix hs h.2⟩⟩
  · rw [herr s1 rfl]; exact ⟨hs, .inr ⟨rfl, hb⟩⟩

theorem SnkPost.bind {k : Sink} {A B : Bytes} {x y : R Unit × Sink} (hx : SnkPost k A x)
    (hok : ∀ k1, x = (.ok (), k1) → k1.out = k.out ++ A → SnkPost k1 B y)
    (herr : ∀ k1, x = (.error .err, k1) → y = (.error .err, k1) := by intro _ h; rw [h]) :
    SnkPost k (A ++ B) y := by
  obtain ⟨r, k1⟩ := x
  obtain ⟨hs, ⟨rfl, ho⟩ | ⟨rfl, hb, p, hp, ho⟩⟩ := hx
  · obtain ⟨hs', ⟨e, ho'⟩ | ⟨e, hb, p, hp, ho'⟩⟩ := hok k1 rfl ho
    · exact ⟨hs'.trans hs, .inl ⟨e, by rw [ho', ho, List.append_assoc]⟩⟩
    · exact ⟨hs'.trans hs, .inr ⟨e, not_onlyShort_of_suffix hs hb, A ++ p, (List.prefix_append_right_inj A).2 hp,
        by rw [ho', ho, List.append_assoc]⟩⟩
  · rw [herr k1 rfl]; exact ⟨hs, .inr ⟨rfl, hb, p, hp.trans (List.prefix_append A B), ho⟩⟩

theorem FullPost.from {β : Type} {s s1 : Source} {k k1 : Sink} {w : β} {rest A B : Bytes}
    {y : R β × Source × Sink} (hs : s1.sched <:+ s.sched) (hk : k1.sched <:+ k.sched)
    (ho : k1.out = k.out ++ A) (h : FullPost s1 k1 w rest B y) : FullPost s k w rest (A ++ B) y := by
  intro hz
  obtain ⟨hs', hk', ⟨e, hd', ho'⟩ | ⟨e, hb, p, hp, ho'⟩⟩ := h (nozero_of_suffix hs hz)
  · exact ⟨hs'.trans hs, hk'.trans hk, .inl ⟨e, hd', by rw [ho', ho, List.append_assoc]⟩⟩
  · exact ⟨hs'.trans hs, hk'.trans hk, .inr ⟨e,
      fun h => hb ⟨onlyShort_of_suffix hs h.1, onlyShort_of_suffix hk h.2⟩, A ++ p,
      (List.prefix_append_right_inj A).2 hp, by rw [ho', ho, List.append_assoc]⟩⟩

theorem FullPost.fail {β : Type} {s s1 : Source} {k : Sink} {w : β} {rest out : Bytes}
    (hs : s1.sched <:+ s.sched) (hb : ¬ OnlyShort s.sched) : FullPost s k w rest out (.error .err, s1, k) :=
  fun _ => ⟨hs, List.suffix_refl _, .inr ⟨rfl, fun hh => hb hh.1, [], List.nil_prefix, (List.append_nil _).symm⟩⟩

theorem FullPost.bind {α β : Type} {s : Source} {k : Sink} {v : α} {w : β} {rest rest' A B : Bytes}
    {x : R α × Source × Sink} {y : R β × Source × Sink} (hx : FullPost s k v rest A x)
    (hok : ∀ s1 k1, x = (.ok v, s1, k1) → s1.data = rest → k1.out = k.out ++ A → FullPost s1 k1 w rest' B y)
    (herr : ∀ s1 k1, x = (.error .err, s1, k1) → y = (.error .err, s1, k1) := by intro _ _ h; rw [h]) :
    FullPost s k w rest' (A ++ B) y := by
  intro hz
  obtain ⟨r, s1, k1⟩ := x
  obtain ⟨hs, hk, ⟨rfl, hd, ho⟩ | ⟨rfl, hb, p, hp, ho⟩⟩ := hx hz
  · exact (hok s1 k1 rfl hd ho).from hs hk ho hz
  · rw [herr s1 k1 rfl]; exact ⟨hs, hk, .inr ⟨rfl, hb, p, hp.trans (List.prefix_append A B), ho⟩⟩

theorem SrcPost.bindFull {α β : Type} {s : Source} {k : Sink} {v : α} {w : β} {rest rest' out : Bytes}
    {x : R α × Source} {y : R β × Source × Sink} (hx : SrcPost s v rest x)
    (hok : ∀ s1, x = (.ok v, s1) → s1.data = rest → FullPost s1 k w rest' out y)
    (herr : ∀ s1, x = (.error .err, s1) → y = (.error .err, s1, k) := by intro _ h; rw [h]) :
    FullPost s k w rest' out y := by
  intro hz
  obtain ⟨r, s1⟩ := x
  obtain ⟨hs, ⟨rfl, hd⟩ | ⟨rfl, hb⟩⟩ := hx hz
  · exact (hok s1 rfl hd).from (A := []) hs (List.suffix_refl _) (List.append_nil _).symm hz
  · rw [herr s1 rfl]; exact FullPost.fail hs hb hz

theorem SnkPost.bindFull {β : Type} {s : Source} {k : Sink} {w : β} {rest A B : Bytes}
    {x : R Unit × Sink} {y : R β × Source × Sink} (hx : SnkPost k A x)
    (hok : ∀ k1, x = (.ok (), k1) → k1.out = k.out ++ A → FullPost s k1 w rest B y)
    (herr : ∀ k1, x = (.error .err, k1) → y = (.error .err, s, k1) := by intro _ h; rw [h]) :
    FullPost s k w rest (A ++ B) y := by
  intro hz
  obtain ⟨r, k1⟩ := x
  obtain ⟨hk, ⟨rfl, ho⟩ | ⟨rfl, hb, p, hp, ho⟩⟩ := hx
  · exact (hok k1 rfl ho).from (List.suffix_refl _) hk ho hz
  · rw [herr k1 rfl]
    exact ⟨List.suffix_refl _, hk, .inr ⟨rfl, fun h => hb h.2, p, hp.trans (List.prefix_append A B), ho⟩⟩

/-- the raw one-byte end-of-stream probe: a byte if there is one, and any failure ends the call -/
theorem FullPost.read1 {β : Type} {s : Source} {k : Sink} {w : β} {rest out : Bytes} {y : R β × Source × Sink}
    (hok : ∀ s1, s.read 1 = (.ok (s.data.take 1), s1) → s1.data = s.data.drop 1 → FullPost s1 k w rest out y)
    (herr : ∀ e s1, s.read 1 = (.error e, s1) → y = (.error .err, s1, k)) : FullPost s k w rest out y := by
  intro hz
  obtain ⟨hsuf, hc⟩ := read_cases s 1 hz
  rcases hc with ⟨m, hm1, hmn, e, hd⟩ | ⟨e, -, -, hb⟩ | ⟨e, hb⟩
  · obtain rfl : m = 1 := by omega
    exact (hok _ (Prod.ext e rfl) hd).from (A := []) hsuf (List.suffix_refl _) (List.append_nil _).symm hz
  · rw [herr _ _ (Prod.ext e rfl)]; exact FullPost.fail hsuf hb hz
  · rw [herr _ _ (Prod.ext e rfl)]; exact FullPost.fail hsuf hb hz

theorem readExactLoop_spec (fuel : Nat) : ∀ (n : Nat) (acc : Bytes) (s : Source),
    n ≤ s.data.length → n + s.sched.length < fuel →
    SrcPost s (acc ++ s.data.take n) (s.data.drop n) (readExactLoop fuel n acc s) := by
  induction fuel with
  | zero => intro n acc s _ hf; omega
  | succ fuel ih =>
    intro n acc s hn hf hz
    rw [readExactLoop]
    by_cases hn0 : n = 0
    · subst hn0
      exact ⟨List.suffix_refl _, .inl ⟨by simp, rfl⟩⟩
    rw [if_neg hn0]
    obtain ⟨hsuf, hc⟩ := read_cases s n hz
    have hlen := hsuf.length_le
    generalize s.read n = x at hsuf hc hlen
    obtain ⟨r, s1⟩ := x
    dsimp only at hsuf hc hlen
    rcases hc with ⟨m, hm1, hmn, rfl, hd⟩ | ⟨rfl, hd, hlt, hb⟩ | ⟨rfl, hb⟩
    · have hgot : (s.data.take m).length = m := by rw [List.length_take]; omega
      have hne : (s.data.take m).isEmpty = false := by
        rw [List.isEmpty_eq_false_iff, ← List.length_pos_iff, hgot]; omega
      dsimp only at hd ⊢
      rw [hne, hgot, if_neg Bool.false_ne_true]
      obtain ⟨hs', h⟩ := ih (n - m) (acc ++ s.data.take m) s1 (by rw [hd, List.length_drop]; omega)
        (by omega) (nozero_of_suffix hsuf hz)
      refine ⟨hs'.trans hsuf, h.imp (fun h => ?_) fun h => ⟨h.1, not_onlyShort_of_suffix hsuf h.2⟩⟩
      rw [h.1, h.2, hd, List.drop_drop, List.append_assoc, ← List.take_add, Nat.add_sub_cancel' hmn]
      exact ⟨rfl, rfl⟩
    · dsimp only at hd ⊢
      obtain ⟨hs', h⟩ := ih n acc s1 (hd ▸ hn) (by omega) (nozero_of_suffix hsuf hz)
      rw [hd] at h
      exact ⟨hs'.trans hsuf, h.imp id fun h => ⟨h.1, hb⟩⟩
    · exact ⟨hsuf, .inr ⟨rfl, hb⟩⟩

theorem readExact_spec (n : Nat) (s : Source) (hn : n ≤ s.data.length) :
    SrcPost s (s.data.take n) (s.data.drop n) (readExact n s) :=
  readExactLoop_spec _ n [] s hn (by omega)

theorem writeAllLoop_spec (fuel : Nat) : ∀ (buf : Bytes) (k : Sink),
    buf.length + k.sched.length < fuel → SnkPost k buf (writeAllLoop fuel buf k) := by
  induction fuel with
  | zero => intro buf k hf; omega
  | succ fuel ih =>
    intro buf k hf
    rw [writeAllLoop]
    by_cases hb : buf = []
    · subst hb
      exact SnkPost.pure
    rw [if_neg (by rw [List.isEmpty_iff]; exact hb)]
    obtain ⟨hsuf, hc⟩ := write_cases k buf hb
    have hlen := hsuf.length_le
    generalize k.write buf = x at hsuf hc hlen
    obtain ⟨r, k1⟩ := x
    dsimp only at hsuf hc hlen
    have fail : k1.out = k.out → ¬ OnlyShort k.sched → SnkPost k buf (.error .err, k1) :=
      fun ho hbad => ⟨hsuf, .inr ⟨rfl, hbad, [], List.nil_prefix, by rw [ho, List.append_nil]⟩⟩
    rcases hc with ⟨m, hm1, hmn, rfl, ho⟩ | ⟨ho, hlt, hbad, rfl | rfl | rfl⟩
    · dsimp only at ho ⊢
      rw [if_neg (by omega)]
      obtain ⟨hs', h⟩ := ih (buf.drop m) k1 (by rw [List.length_drop]; omega)
      refine ⟨hs'.trans hsuf, h.imp (fun h => ⟨h.1, ?_⟩) fun ⟨e, hbad, p, hp, ho'⟩ =>
        ⟨e, not_onlyShort_of_suffix hsuf hbad, buf.take m ++ p, ?_, ?_⟩⟩
      · rw [h.2, ho, List.append_assoc, List.take_append_drop]
      · have := (List.prefix_append_right_inj (buf.take m)).2 hp
        rwa [List.take_append_drop] at this
      · rw [ho', ho, List.append_assoc]
    · exact fail ho hbad
    · dsimp only at ho ⊢
      obtain ⟨hs', h⟩ := ih buf k1 (by omega)
      rw [ho] at h
      exact ⟨hs'.trans hsuf, h.imp id fun h => ⟨h.1, hbad, h.2.2⟩⟩
    · exact fail ho hbad

theorem writeAll_spec (buf : Bytes) (k : Sink) : SnkPost k buf (writeAll buf k) :=
  writeAllLoop_spec _ buf k (by omega)

end Preflate.Proofs

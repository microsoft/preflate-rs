/-
Model/Basic.lean: the `Except` monad of the model (`R = Except Fail`) — what `>>=` does on `ok`, and
when a bind is `ok` — and the panicking lookup `idx`.
-/
import Preflate.Model.Basic
namespace Preflate.Proofs

theorem ok_bind {ε α β : Type} (a : α) (f : α → Except ε β) : (Except.ok a >>= f) = f a := rfl

theorem bind_eq_ok {ε α β : Type} (x : Except ε α) (f : α → Except ε β) (b : β) :
    (x >>= f) = .ok b ↔ ∃ a, x = .ok a ∧ f a = .ok b := by
  cases x <;> simp [bind, Except.bind]

theorem throw_bind {ε α β : Type} (e : ε) (f : α → Except ε β) :
    ((throw e : Except ε α) >>= f) = .error e := rfl

theorem bind_congr_ok {ε α β : Type} {x : Except ε α} {f g : α → Except ε β}
    (h : ∀ a, x = .ok a → f a = g a) : x >>= f = x >>= g := by
  cases x with
  | error e => rfl
  | ok a => exact h a rfl

theorem getElem?_getD {l : List Nat} {i : Nat} (h : i < l.length) : l[i]? = some (l.getD i 0) := by
  simp [List.getD, List.getElem?_eq_getElem h]

theorem idx_ok_of_getElem? (l : List Nat) (i v : Nat) (site : String) (h : l[i]? = some v) :
    idx l i site = .ok v := by
  simp [idx, h]

theorem idx_ok (l : List Nat) (i : Nat) (site : String) (h : i < l.length) :
    idx l i site = .ok (l.getD i 0) :=
  idx_ok_of_getElem? _ _ _ _ (getElem?_getD h)

theorem idx_getD {l : List Nat} {i v : Nat} {site : String} (h : idx l i site = .ok v) :
    l.getD i 0 = v := by
  unfold idx at h
  split at h
  · rename_i v' hv
    cases h
    simp [List.getD, hv]
  · cases h

end Preflate.Proofs

/- The chunk reader returns, for a chunk list that covers the file, what the chunk writer was given. -/
import Preflate.Proofs.ContainerIdat
namespace Preflate.Proofs
open Preflate

/-- the candidates the scanner hands to the oracle: suffixes of the file and the payload `parse_idat`
    assembles at some position -/
def Asked (crc : Bytes → Nat) (src d : Bytes) : Prop :=
  (∃ k, d = src.drop k) ∨ ∃ k c, parseIdat crc (src.drop k) = .ok (c, d)

theorem Asked.drop {crc : Bytes → Nat} {src : Bytes} (k : Nat) : Asked crc src (src.drop k) :=
  .inl ⟨k, rfl⟩

theorem Asked.idat {crc : Bytes → Nat} {src d : Bytes} {k : Nat} {c : IdatContents}
    (h : parseIdat crc (src.drop k) = .ok (c, d)) : Asked crc src d :=
  .inr ⟨k, c, h⟩

theorem asked_cand {crc : Bytes → Nat} {src d : Bytes} (hb : ∀ b ∈ src, b < 256) (hf : src.length < 2 ^ 32)
    (h : Asked crc src d) : Cand src d := by
  rcases h with ⟨k, rfl⟩ | ⟨k, c, h⟩
  · exact cand_drop src k
  · exact cand_trans (cand_drop src k)
      (parseIdat_spec crc _ (fun b hm => hb b (List.mem_of_mem_drop hm))
        (by rw [List.length_drop]; omega) c d h).1

/-- what the scanner may emit at `pos`: a literal that stays inside the file, or a stream the oracle
    verified there; for IDAT the oracle is asked about the payload `parse_idat` assembles at `pos` and
    has to use all of it -/
def ChunkOk (o : Oracle) (crc : Bytes → Nat) (src : Bytes) (pos : Nat) : Chunk → Prop
  | .literal n => pos + n ≤ src.length
  | .deflate r => o.verified (src.drop pos) = .ok r
  | .idat c r => ∃ payload, parseIdat crc (src.drop pos) = .ok (c, payload) ∧
      o.verified payload = .ok r ∧ r.size = payload.length

/-- the chunks tile `src` from `pos` to its end, each `ChunkOk` where it starts: what the scanner
    establishes (`scanLoop_spec`) and the chunk reader needs (`readChunks_write`) -/
def Covers (o : Oracle) (crc : Bytes → Nat) (src : Bytes) : Nat → List Chunk → Prop
  | pos, [] => pos = src.length
  | pos, c :: cs => pos ≤ src.length ∧ ChunkOk o crc src pos c ∧
      Covers o crc src (pos + c.extent) cs

theorem verified_ok {o : Oracle} {d : Bytes} {r : Res} (h : o.verified d = .ok r) :
    o.analyze d = .ok r ∧ o.recompress r.plain r.corr = .ok (d.take r.size) ∧ r.size ≤ d.length := by
  unfold Oracle.verified at h
  obtain ⟨r', ha, h⟩ := (bind_eq_ok ..).mp h
  obtain ⟨back, hr, h⟩ := (bind_eq_ok ..).mp h
  by_cases hsz : r'.size > d.length
  · rw [if_pos hsz] at h; cases h
  · rw [if_neg hsz] at h
    dsimp only at h
    by_cases hback : back = d.take r'.size
    · rw [if_pos hback] at h
      cases h
      exact ⟨ha, hback ▸ hr, Nat.le_of_not_lt hsz⟩
    · rw [if_neg hback] at h; cases h

theorem streamPayload_append (r : Res) (rest : Bytes) : streamPayload r ++ rest =
    varint r.plain.length ++ (r.plain ++ (varint r.corr.length ++ (r.corr ++ rest))) := by
  simp [streamPayload]

theorem readChunk_write (o : Oracle) (crc : Bytes → Nat) (src : Bytes)
    (hb : ∀ b ∈ src, b < 256) (hf : src.length < 2 ^ 32)
    (hsize : ∀ d r, Asked crc src d → o.verified d = .ok r → r.plain.length < 2 ^ 32 ∧ r.corr.length < 2 ^ 32)
    (pos : Nat) (c : Chunk) (hpos : pos ≤ src.length) (hc : ChunkOk o crc src pos c) :
    pos + c.extent ≤ src.length ∧
    ∃ a, writeChunk (src.drop pos) c = .ok a ∧ 0 < a.length ∧
      ∀ rest, readChunk o crc (a ++ rest) = .ok (some ((src.drop pos).take c.extent, rest)) := by
  cases c with
  | literal n =>
    have hc : pos + n ≤ src.length := hc
    have hn : n ≤ (src.drop pos).length := by rw [List.length_drop]; omega
    refine ⟨hc, [0] ++ varint n ++ (src.drop pos).take n, by rw [writeChunk, if_pos hn], by simp, ?_⟩
    intro rest
    simp only [List.cons_append, List.nil_append, List.append_assoc, readChunk, if_true,
      varint_lt n (by omega) _, ok_bind, takeExact_append _ rest (List.length_take_of_le hn), Chunk.extent]
  | deflate r =>
    obtain ⟨_, hrec, hle⟩ := verified_ok hc
    obtain ⟨hp, hcl⟩ := hsize _ r (.drop pos) hc
    rw [List.length_drop] at hle
    refine ⟨by simp only [Chunk.extent]; omega, _, rfl, by simp, ?_⟩
    intro rest
    simp only [List.cons_append, List.nil_append, readChunk, (by decide : ¬ (1 = 0)), if_false,
      true_or, if_true, (by decide : ¬ (1 = 2)), pure, Except.pure, ok_bind,
      streamPayload_append, varint_lt _ hp, takeExact_append _ _ rfl, varint_lt _ hcl, hrec, Chunk.extent]
  | idat ic r =>
    obtain ⟨payload, hparse, hver, hsz⟩ := hc
    obtain ⟨_, hrec, _⟩ := verified_ok hver
    obtain ⟨hp, hcl⟩ := hsize _ r (.idat hparse) hver
    obtain ⟨_, hsizes, hhdr, hadler, hrecr⟩ := parseIdat_spec crc _
      (fun b hm => hb b (List.mem_of_mem_drop hm)) (by rw [List.length_drop]; omega) ic payload hparse
    have htot := parseIdat_total_le hparse
    rw [List.length_drop] at htot
    refine ⟨by simp only [Chunk.extent]; omega, _, rfl, by simp, ?_⟩
    intro rest
    obtain ⟨c', hread, e1, e2, e3⟩ := readIdatContents_write ic (streamPayload r ++ rest) hsizes hhdr hadler
    rw [streamPayload_append] at hread
    simp only [List.cons_append, List.nil_append, readChunk, List.append_assoc, hread,
      (by decide : ¬ (2 = 0)), if_false, or_true, if_true, pure, Except.pure, ok_bind,
      streamPayload_append, varint_lt _ hp, takeExact_append _ _ rfl, varint_lt _ hcl, hrec, Chunk.extent,
      hsz, List.take_length, hrecr c' e1 e2 e3]

theorem readChunks_write (o : Oracle) (crc : Bytes → Nat) (src : Bytes)
    (hb : ∀ b ∈ src, b < 256) (hf : src.length < 2 ^ 32)
    (hsize : ∀ d r, Asked crc src d → o.verified d = .ok r → r.plain.length < 2 ^ 32 ∧ r.corr.length < 2 ^ 32) :
    ∀ (chunks : List Chunk) (pos : Nat), Covers o crc src pos chunks →
      ∃ w, writeChunks src pos chunks = .ok w ∧
        ∀ fuel, w.length + 1 ≤ fuel → readChunks o crc fuel w = .ok (src.drop pos) := by
  intro chunks
  induction chunks with
  | nil =>
    rintro pos rfl
    refine ⟨[], rfl, fun fuel hfuel => ?_⟩
    obtain ⟨f, rfl⟩ : ∃ f, fuel = f + 1 := ⟨fuel - 1, by omega⟩
    simp only [readChunks, readChunk, ok_bind, List.drop_length]
  | cons c cs ih =>
    rintro pos ⟨hpos, hok, hrest⟩
    obtain ⟨_, a, hwa, hapos, hread⟩ := readChunk_write o crc src hb hf hsize pos c hpos hok
    obtain ⟨w, hww, hrw⟩ := ih _ hrest
    refine ⟨a ++ w, by simp only [writeChunks, Nat.not_lt.mpr hpos, if_false, hwa, hww, ok_bind], ?_⟩
    intro fuel hfuel
    obtain ⟨f, rfl⟩ : ∃ f, fuel = f + 1 := ⟨fuel - 1, by omega⟩
    simp only [readChunks, hread w, ok_bind, hrw f (by rw [List.length_append] at hfuel; omega)]
    rw [← List.drop_drop, List.take_append_drop]

end Preflate.Proofs

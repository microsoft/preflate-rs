/- The full parameter estimator terminates on EVERY input with one of finitely many outcomes:
   a parameter vector, `Err(PreflateError)`, or a panic at one of the enumerated sites — never
   `.error .fuel` (no hang).  Uses the `Post` predicate of Proofs/Total.lean; the lemmas about the
   candidates also record, as postcondition, that a candidate keeps its hash parameters. -/
import Preflate.Proofs.EstimatorFull
namespace Preflate.Proofs.EstTotal
open Preflate Preflate.Est

/-- every panic site reachable from `Est.estimate` (see the header of Proofs/EstimateTotal.lean) -/
def panicSites : List String :=
  [ "estimate_add_policy: subtract with overflow",
    "CompLevelEstimatorState::new: 1 << wbits does not fit u16",
    "internal_update_hash: debug_assert!(length <= chars.len())",
    "internal_update_hash: add with overflow",
    "internal_update_hash3: debug_assert!(length <= chars.len())",
    "update_hash: &input[length - 1..] out of range",
    "get_hash (3 byte secondary): index out of range",
    "match_depth (libdeflate): subtract with overflow",
    "match_depth: subtract with overflow",
    "get_hash: index out of range",
    "get_node_depth: debug_assert_eq!(chain_depth_hash_verify[node], expected_hash)",
    "match_depth: debug_assert!(cur_depth >= match_depth)",
    "advance: add with overflow",
    "advance: debug_assert!(pos <= data.len())",
    "recommend: subtract with overflow" ]

def EOut (e : Fail) : Prop := e = .err ∨ ∃ s, s ∈ panicSites ∧ e = .panic s

abbrev Out {α : Type} (x : R α) : Prop := Post EOut (fun _ => True) x

theorem EOut.err : EOut .err := .inl rfl

/-- that the site is a listed one is checked where the lemma is used -/
theorem EOut.panic {s : String} (h : s ∈ panicSites := by simp [panicSites]) : EOut (.panic s) :=
  .inr ⟨s, h, rfl⟩

theorem getHash_out (hp : Params) (plain : Array Nat) (pos : Nat) : Out (getHash hp plain pos) := by
  fun_cases getHash hp plain pos
  · exact .error _ .panic
  · exact .ok _ trivial

theorem getHash3_out (plain : Array Nat) (pos : Nat) : Out (getHash3 plain pos) := by
  fun_cases getHash3 plain pos
  · exact .error _ .panic
  · exact .ok _ trivial

theorem insertLoop_out (hashf : Nat → Nat) (length i pos : Nat) (head cd vf : Array Nat) :
    Out (insertLoop hashf length i pos head cd vf) := by
  fun_induction insertLoop hashf length i pos head cd vf with
  | case1 => exact .error _ .panic
  | case2 _ _ _ _ _ _ _ _ _ ih => exact ih
  | case3 => exact .ok _ trivial

theorem internalUpdate_out (hp : Params) (plain : Array Nat) (d : Depth) (pos length : Nat) :
    Out (d.internalUpdate hp plain pos length) := by
  fun_cases Depth.internalUpdate hp plain d pos length
  · exact .error _ .panic
  · exact .ok _ trivial
  · exact insertLoop_out ..

theorem internalUpdate3_out (plain : Array Nat) (head3 : Array Nat) (pos length : Nat) :
    Out (internalUpdate3 plain head3 pos length) := by
  fun_cases internalUpdate3 plain head3 pos length
  · exact .error _ .panic
  · exact .ok _ trivial
  · exact .ok _ trivial

theorem updateHash_post (plain : Array Nat) (pol lim : Nat) (c : Candidate) (pos length : Nat) :
    Post EOut (fun c' => c'.hp = c.hp) (c.updateHash plain pol lim pos length) := by
  rw [updateHash_eq]
  refine policyUpdateR_post _ _ _ _ .panic ?_ _ _ _ rfl
  intro ⟨hp, d, head3, l0, l1, mc⟩ p l hs
  refine (internalUpdate_out ..).seq fun d' _ => ?_
  split
  · exact (internalUpdate3_out ..).seq fun h' _ => .ok _ hs
  · exact .ok _ hs

theorem getNodeDepth_out (d : Depth) (node expected : Nat) : Out (d.getNodeDepth node expected) := by
  fun_cases Depth.getNodeDepth d node expected
  · exact .error _ .panic
  · exact .ok _ trivial

theorem matchDepth_out (hp : Params) (plain : Array Nat) (d : Depth) (pos dist : Nat) :
    Out (d.matchDepth hp plain pos dist) := by
  unfold Depth.matchDepth
  exact Post.ite (fun _ => .error _ .panic) fun _ =>
    (getHash_out ..).seq fun h _ => (getNodeDepth_out ..).seq fun cur _ => (getNodeDepth_out ..).seq fun m _ =>
      Post.ite (fun _ => .error _ .panic) fun _ => .ok _ trivial

theorem estimatorMatchDepth_out (plain : Array Nat) (c : Candidate) (pos len dist : Nat) :
    Out (c.estimatorMatchDepth plain pos len dist) := by
  unfold Candidate.estimatorMatchDepth
  refine Post.ite (fun _ => (getHash3_out ..).seq fun h3 _ => ?_) fun _ => matchDepth_out ..
  exact Post.ite (fun _ => .error _ .panic) fun _ =>
    Post.ite (fun _ => .ok _ trivial) fun _ => Post.ite (fun _ => .ok _ trivial) fun _ =>
      (matchDepth_out ..).seq fun m _ => .ok _ trivial

theorem cand_matchDepth_post (plain : Array Nat) (c : Candidate) (pos len dist : Nat) :
    Post EOut (fun r => ∀ c', r = some c' → c'.hp = c.hp) (c.matchDepth plain pos len dist) := by
  unfold Candidate.matchDepth
  refine (estimatorMatchDepth_out ..).seq fun m _ => ?_
  split
  · simp only []
    split <;> exact .ok _ fun c' h => by cases h; rfl
  · exact .ok _ fun c' h => nomatch h

theorem updateCandidateHashes_post (G : Params → Prop) (plain : Array Nat) (pol lim : Nat) (s : CLState)
    (length : Nat) (hs : ∀ c ∈ s.cands, G c.hp) :
    Post EOut (fun s' => (∀ c ∈ s'.cands, G c.hp) ∧ s'.longestLen3Dist = s.longestLen3Dist)
      (updateCandidateHashes plain pol lim s length) := by
  obtain ⟨pos, cands, rc, ur, mts, l3⟩ := s
  simp only [updateCandidateHashes]
  refine (updateCands_post _ (fun c hc => (updateHash_post ..).mono (fun _ h => h)
    fun c' h => (h ▸ hc : G c'.hp)) cands hs).seq fun cs hcs => ?_
  exact Post.ite (fun _ => .error _ .panic) fun _ =>
    Post.ite (fun _ => .error _ .panic) fun _ => .ok _ ⟨hcs, rfl⟩

theorem checkMatch_post (G : Params → Prop) (plain : Array Nat) (s : CLState) (len dist : Nat)
    (hs : ∀ c ∈ s.cands, G c.hp) :
    Post EOut (fun s' => (∀ c ∈ s'.cands, G c.hp) ∧ s'.longestLen3Dist ≤ max s.longestLen3Dist dist)
      (checkMatch plain s len dist) := by
  obtain ⟨pos, cands, rc, ur, mts, l3⟩ := s
  simp only [checkMatch]
  split
  · exact .ok _ ⟨hs, Nat.le_max_left ..⟩
  · refine (retainCands_post _ (fun c hc => (cand_matchDepth_post ..).mono (fun _ h => h)
      fun r h c' hr => (h c' hr ▸ hc : G c'.hp)) cands hs).seq fun cs hcs => .ok _ ⟨hcs, ?_⟩
    show (if len = 3 then max l3 dist else l3) ≤ max l3 dist
    split
    · exact Nat.le_refl _
    · exact Nat.le_max_left ..

theorem checkDump_out (plain : Array Nat) (pol lim : Nat) (bs : List Block) (s : CLState) :
    Out (checkDump plain pol lim s bs) := by
  rw [checkDump_flat]
  exact dumpTokens_post plain pol lim (fun _ => True) (fun _ => True)
    (fun s l _ => (updateCandidateHashes_post (fun _ => True) plain pol lim s l fun _ _ => trivial).mono
      (fun _ h => h) fun _ _ => trivial)
    (fun s len dist _ _ _ => (checkMatch_post (fun _ => True) plain s len dist fun _ _ => trivial).mono
      (fun _ h => h) fun _ _ => trivial)
    _ s (fun _ _ => trivial) trivial

theorem recommend_out (wsize pol : Nat) (s : CLState) : Out (recommend wsize pol s) := by
  fun_cases recommend wsize pol s
  · exact .error _ .err
  · exact .error _ .err
  · exact .error _ .panic
  · exact .ok _ trivial

theorem compLevel_out (wbits minLen : Nat) (plain : Array Nat) (pol lim : Nat) (blocks : List Block) :
    Out (compLevel wbits minLen plain pol lim blocks) := by
  unfold compLevel
  exact Post.ite (fun _ => .error _ .panic) fun _ =>
    (checkDump_out ..).seq fun s _ => recommend_out ..

theorem estimate_out (plain : Array Nat) (blocks : List Block) : Out (Est.estimate plain blocks) := by
  unfold Est.estimate
  refine ((Proofs.front_out blocks).mono (fun e h => h ▸ .panic)
    fun _ h => h).seq fun f _ => ?_
  exact Post.ite (fun _ => .ok _ trivial) fun _ => (compLevel_out ..).seq fun cl _ => .ok _ trivial

/-- **Outcomes of the estimator on EVERY input** (valid or not): a parameter vector,
    `Err(PreflateError)`, or a panic at one of the 15 enumerated sites. In particular never
    `.error .fuel`: the estimator has no unbounded loop. -/
theorem estimate_outcomes (plain : Array Nat) (blocks : List Block) :
    (∃ p, Est.estimate plain blocks = .ok p) ∨ Est.estimate plain blocks = .error .err ∨
    ∃ s, s ∈ panicSites ∧ Est.estimate plain blocks = .error (.panic s) := by
  rcases (estimate_out plain blocks).cases with ⟨p, h, _⟩ | ⟨e, h, rfl | ⟨s, hs, rfl⟩⟩
  · exact .inl ⟨p, h⟩
  · exact .inr (.inl h)
  · exact .inr (.inr ⟨s, hs, h⟩)

theorem estimate_no_fuel (plain : Array Nat) (blocks : List Block) :
    Est.estimate plain blocks ≠ .error .fuel := by
  rcases estimate_outcomes plain blocks with ⟨p, h⟩ | h | ⟨s, _, h⟩ <;> rw [h] <;> exact nofun

end Preflate.Proofs.EstTotal

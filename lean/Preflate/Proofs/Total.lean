/-
C05: the parser is total. A small Hoare-style predicate over `R`: `Post E Q x` says that `x` either
succeeds with a value satisfying `Q` or fails with a failure satisfying `E`. The parser's functions
fail with `Err`, or with `Fail.fuel` in a situation `F` (`EF F`); for a loop `F` is `fuel ≤ bs.length`,
every iteration consumes a bit, and at the top the fuel is `bs.length + 1`, so `F` is `False` there.
-/
import Preflate.Proofs.CorrBoundParse
namespace Preflate.Proofs
open Preflate

/-- NOTE: an inductive predicate rather than a definition by cases: `whnf` stops at it, so tactics
    that normalise the goal never start evaluating the parser. -/
inductive Post {α : Type} (E : Fail → Prop) (Q : α → Prop) : R α → Prop
  | ok (a : α) : Q a → Post E Q (.ok a)
  | error (e : Fail) : E e → Post E Q (.error e)

variable {α β : Type} {E E' : Fail → Prop} {Q : α → Prop} {Q' : β → Prop} {x : R α} {f : α → R β}
  {F F' : Prop}

theorem Post.ok_iff {a : α} : Post E Q (.ok a) ↔ Q a :=
  ⟨fun h => by cases h; assumption, Post.ok a⟩

theorem Post.error_iff {e : Fail} : Post E Q (.error e : R α) ↔ E e :=
  ⟨fun h => by cases h; assumption, Post.error e⟩

theorem Post.cases (h : Post E Q x) :
    (∃ a, x = .ok a ∧ Q a) ∨ ∃ e, x = .error e ∧ E e := by
  cases h with
  | ok a h => exact .inl ⟨a, rfl, h⟩
  | error e h => exact .inr ⟨e, rfl, h⟩

theorem Post.of_eq_ok {a : α} (h : x = .ok a) (hq : Q a) : Post E Q x := h ▸ .ok a hq

theorem Post.exists_ok (h : Post (fun _ => False) Q x) : ∃ a, x = .ok a ∧ Q a := by
  rcases h.cases with h | ⟨_, _, h⟩
  · exact h
  · exact h.elim

theorem Post.ok_or_error {e : Fail} (h : Post (· = e) Q x) : (∃ a, x = .ok a) ∨ x = .error e := by
  rcases h.cases with ⟨a, hx, _⟩ | ⟨_, hx, rfl⟩
  · exact .inl ⟨a, hx⟩
  · exact .inr hx

theorem Post.bind (hx : Post E Q x) (hE : ∀ e, E e → E' e) (hf : ∀ a, Q a → Post E' Q' (f a)) :
    Post E' Q' (x >>= f) := by
  cases hx with
  | error e h => exact .error e (hE e h)
  | ok a h => exact hf a h

theorem Post.mono {Q' : α → Prop} (hx : Post E Q x) (hE : ∀ e, E e → E' e)
    (hQ : ∀ a, Q a → Q' a) : Post E' Q' x := by
  cases hx with
  | error e h => exact .error e (hE e h)
  | ok a h => exact .ok a (hQ a h)

theorem Post.and_ok {Q' : α → Prop} (hx : Post E Q x) (h : ∀ a, x = .ok a → Q' a) :
    Post E (fun a => Q a ∧ Q' a) x := by
  cases hx with
  | error e he => exact .error e he
  | ok a ha => exact .ok a ⟨ha, h a rfl⟩

theorem Post.seq (hx : Post E Q x) (hf : ∀ a, Q a → Post E Q' (f a)) : Post E Q' (x >>= f) :=
  hx.bind (fun _ h => h) hf

/-- a guard of a `do` block, without splitting the term it sits in -/
theorem Post.ite {c : Prop} [Decidable c] {y : R α} (hx : c → Post E Q x) (hy : ¬ c → Post E Q y) :
    Post E Q (if c then x else y) := by
  by_cases h : c
  · exact if_pos h ▸ hx h
  · exact if_neg h ▸ hy h

def EF (F : Prop) (e : Fail) : Prop := e = .err ∨ (e = .fuel ∧ F)

theorem EF.mono (h : F → F') (e : Fail) : EF F e → EF F' e := by
  rintro (h1 | ⟨h1, h2⟩)
  · exact Or.inl h1
  · exact Or.inr ⟨h1, h h2⟩

theorem Post.err : Post (EF F) Q (.error .err : R α) :=
  .error _ (Or.inl rfl)

theorem Post.fuel (h : F) : Post (EF F) Q (.error .fuel : R α) :=
  .error _ (Or.inr ⟨rfl, h⟩)

-- the primitives fail with `Err` only, so their statements leave `F` open

theorem readBits_err {n : Nat} {bs : Bits} {e : Fail} (h : readBits n bs = .error e) : e = .err := by
  induction n generalizing bs with
  | zero => cases h
  | succ n ih =>
    cases bs with
    | nil => cases h; rfl
    | cons b bs =>
      rw [readBits] at h
      cases h' : readBits n bs with
      | ok p => rw [h'] at h; cases h
      | error e' => rw [h'] at h; cases h; exact ih h'

theorem readBits_post (n : Nat) (bs : Bits) :
    Post (EF F) (fun p => p.2.length ≤ bs.length) (readBits n bs) := by
  cases h : readBits n bs with
  | ok p => exact .ok _ (Nat.le.intro (readBits_len h))
  | error e => exact .error _ (Or.inl (readBits_err h))

theorem decodeSym_post (t : List (Bits × Nat)) (bs : Bits) :
    Post (EF F) (fun p => p.2.length ≤ bs.length) (decodeSym t bs) := by
  unfold decodeSym
  split
  · exact .ok _ (by simp only [List.length_drop]; omega)
  · exact Post.err

theorem decodeSym_post_lt (l : List Nat) (bs : Bits) :
    Post (EF F) (fun p => p.2.length < bs.length) (decodeSym (codeTable l) bs) :=
  ((decodeSym_post _ bs).and_ok fun _ h => decodeSym_lt h).mono (fun _ h => h) fun _ h => h.2

theorem mkTable_post (l : List Nat) : Post (EF F) (fun t => t = codeTable l) (mkTable l) :=
  Post.ite (fun _ => .ok _ rfl) fun _ => Post.err

theorem readBytes_post (n : Nat) (bs : Bits) : Post (EF F) (fun _ => True) (readBytes n bs) := by
  induction n generalizing bs with
  | zero => exact .ok _ trivial
  | succ n ih =>
    rw [readBytes]
    exact (readBits_post 8 bs).seq fun p _ => (ih p.2).seq fun _ _ => .ok _ trivial

theorem readCodeLengths_post (n i : Nat) (acc : List Nat) (bs : Bits) :
    Post (EF F) (fun _ => True) (readCodeLengths n i acc bs) := by
  induction n generalizing i acc bs with
  | zero => exact .ok _ trivial
  | succ n ih =>
    rw [readCodeLengths]
    exact (readBits_post 3 bs).seq fun p _ => ih _ _ p.2

/-- every item consumes a bit, so the fuel suffices -/
theorem readRleItems_post (cl : List Nat) (total : Nat) : ∀ (fuel read : Nat) (bs : Bits),
    Post (EF (fuel ≤ bs.length)) (fun _ => True) (readRleItems (codeTable cl) total fuel read bs) := by
  intro fuel
  induction fuel with
  | zero => exact fun _ _ => Post.fuel (Nat.zero_le _)
  | succ fuel ih =>
    intro read bs
    rw [readRleItems]
    refine Post.ite (fun _ => ?_) fun _ => Post.ite (fun _ => .ok _ trivial) fun _ => Post.err
    refine (decodeSym_post_lt cl bs).seq fun ⟨w, bs1⟩ h1 => ?_
    dsimp only at h1 ⊢
    refine Post.ite (fun _ => ?_) fun _ => Post.ite (fun _ => ?_) fun _ => Post.err
    · exact (ih _ bs1).bind (EF.mono (by omega)) fun _ _ => .ok _ trivial
    · refine (readBits_post _ bs1).seq fun ⟨x, bs2⟩ h2 => ?_
      dsimp only at h2 ⊢
      exact (ih _ bs2).bind (EF.mono (by omega)) fun _ _ => .ok _ trivial

theorem readHeader_post (bs : Bits) : Post (EF F) (fun _ => True) (readHeader bs) := by
  unfold readHeader
  refine (readBits_post 5 bs).seq fun p1 _ => (readBits_post 5 p1.2).seq fun p2 _ =>
    (readBits_post 4 p2.2).seq fun p3 _ => (readCodeLengths_post _ _ _ p3.2).seq fun p4 _ =>
    (mkTable_post p4.1).seq fun t ht => ?_
  subst ht
  exact (readRleItems_post _ _ _ 0 p4.2).bind (EF.mono (by omega)) fun _ _ => .ok _ trivial

/-- the slicing in `get_literal_distance_lengths` cannot panic on a header that was read -/
theorem litDistLengths_post {h : Header} (hv : HeaderValid h) :
    Post (EF F) (fun _ => True) (litDistLengths h) := by
  rw [litDistLengths_eq hv]
  exact .ok _ trivial

theorem decodeTokens_post (ll : List Nat) (dt : List (Bits × Nat)) :
    ∀ (fuel : Nat) (plain : Array Nat) (bs : Bits),
    Post (EF (fuel ≤ bs.length)) (fun _ => True) (decodeTokens (codeTable ll) dt fuel plain bs) := by
  intro fuel
  induction fuel with
  | zero => exact fun _ _ => Post.fuel (Nat.zero_le _)
  | succ fuel ih =>
    intro plain bs
    rw [decodeTokens]
    refine Post.ite (fun _ => Post.err) fun _ => (decodeSym_post_lt ll bs).seq fun ⟨sym, bs1⟩ h1 => ?_
    dsimp only at h1 ⊢
    refine Post.ite (fun _ => ?_) fun _ => Post.ite (fun _ => .ok _ trivial) fun _ =>
      Post.ite (fun _ => Post.err) fun _ => ?_
    · exact (ih _ bs1).bind (EF.mono (by omega)) fun _ _ => .ok _ trivial
    · refine (readBits_post _ bs1).seq ?_
      intro ⟨ex, bs2⟩ h2
      refine (decodeSym_post dt bs2).seq ?_
      intro ⟨dcode, bs3⟩ h3
      dsimp only at h2 h3 ⊢
      refine Post.ite (fun _ => Post.err) fun _ => (readBits_post _ bs3).seq ?_
      intro ⟨dx, bs4⟩ h4
      dsimp only at h4 ⊢
      refine Post.ite (fun _ => Post.err) fun _ => ?_
      exact (ih _ bs4).bind (EF.mono (by omega)) fun _ _ => .ok _ trivial

theorem readBlock_post (plain : Array Nat) (bs : Bits) :
    Post (EF F) (fun _ => True) (readBlock plain bs) := by
  unfold readBlock
  refine (readBits_post 1 bs).seq fun ⟨last, bs1⟩ _ => (readBits_post 2 bs1).seq
    fun ⟨mode, bs2⟩ _ => ?_
  dsimp only
  refine Post.ite (fun _ => ?_) fun _ => Post.ite (fun _ => ?_) fun _ =>
    Post.ite (fun _ => ?_) fun _ => Post.err
  · refine (readBits_post _ bs2).seq fun p3 _ => (readBits_post 16 p3.2).seq fun p4 _ =>
      (readBits_post 16 p4.2).seq fun p5 _ => ?_
    exact Post.ite (fun _ => Post.err) fun _ => Post.ite (fun _ => Post.err) fun _ =>
      (readBytes_post _ _).seq fun _ _ => .ok _ trivial
  · -- nothing below depends on the fixed lengths: as a variable they are quicker to check than as the
    -- 288-entry constant
    generalize fixedLitLengths = ll
    refine (mkTable_post ll).seq fun lt hlt => (mkTable_post _).seq fun dt _ => ?_
    subst hlt
    exact (decodeTokens_post ll dt _ plain bs2).bind (EF.mono (by omega)) fun _ _ => .ok _ trivial
  · refine ((readHeader_post bs2).and_ok fun _ h => readHeader_valid h).seq fun ⟨h, bs3⟩ ⟨_, hv⟩ => ?_
    dsimp only
    refine (litDistLengths_post hv).seq fun ⟨ll, dl⟩ _ => (mkTable_post ll).seq fun lt hlt =>
      (mkTable_post dl).seq fun dt _ => ?_
    subst hlt
    exact (decodeTokens_post ll dt _ plain bs3).bind (EF.mono (by omega)) fun _ _ => .ok _ trivial

theorem readBlocks_post : ∀ (fuel : Nat) (plain : Array Nat) (bs : Bits),
    Post (EF (fuel ≤ bs.length)) (fun _ => True) (readBlocks fuel plain bs) := by
  intro fuel
  induction fuel with
  | zero => exact fun _ _ => Post.fuel (Nat.zero_le _)
  | succ fuel ih =>
    intro plain bs
    rw [readBlocks]
    refine ((readBlock_post plain bs).and_ok fun _ h => readBlock_lt h).seq
      fun ⟨last, b, plain', bs1⟩ ⟨_, h1⟩ => ?_
    dsimp only at h1 ⊢
    refine Post.ite (fun _ => .ok _ trivial) fun _ => ?_
    exact (ih plain' bs1).bind (EF.mono (by omega)) fun _ _ => .ok _ trivial

theorem parseBits_post (bs : Bits) : Post (EF False) (fun _ => True) (parseBits bs) := by
  unfold parseBits
  refine (readBlocks_post _ #[] bs).bind (EF.mono (by omega)) fun ⟨blocks, plain, bs1⟩ _ => ?_
  exact (readBits_post _ bs1).seq fun _ _ => .ok _ trivial

theorem parseBits_error (bs : Bits) (e : Fail) (h : parseBits bs = .error e) : e = .err := by
  have := parseBits_post bs
  rw [h] at this
  rcases Post.error_iff.mp this with h1 | ⟨_, h2⟩
  · exact h1
  · exact h2.elim

theorem parseBits_no_panic (bs : Bits) (m : String) : parseBits bs ≠ .error (.panic m) := by
  intro h
  cases parseBits_error bs _ h

theorem parseBits_no_fuel (bs : Bits) : parseBits bs ≠ .error .fuel := by
  intro h
  cases parseBits_error bs _ h

end Preflate.Proofs

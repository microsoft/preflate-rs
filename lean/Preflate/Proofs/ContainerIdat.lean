/-
IDAT. `IdatEnd` (Model/Wrappers.lean) is exactly the exit test of the chunk walk of `parse_idat`, so the
walk is described by two equations (`idatChunks_end`, `idatChunks_more`); a tail that is not an `IdatEnd`
starts with a `pngChunk` and conversely. From these: what the walk returns on a run of chunks,
what an accepted walk says about its input, and that `recreate_idat` and the `IdatContents`
serialisation reproduce it.
-/
import Preflate.Model.Wrappers
import Preflate.Proofs.ContainerVarint
namespace Preflate.Proofs
open Preflate

theorem drop_split (s : Bytes) (p n : Nat) : s.drop p = (s.drop p).take n ++ s.drop (p + n) := by
  rw [← List.drop_drop, List.take_append_drop]

theorem idatWrap_cons (crc : Bytes → Nat) (p : Bytes) (ps : List Bytes) :
    idatWrap crc (p :: ps) = pngChunk crc idatTag p ++ idatWrap crc ps := by
  simp [idatWrap]

theorem pngChunk_length (crc : Bytes → Nat) (p : Bytes) : (pngChunk crc idatTag p).length = p.length + 12 := by
  simp [pngChunk, idatTag, be32]

theorem length_flatten_le_wrap (crc : Bytes → Nat) (ds : List Bytes) :
    ds.flatten.length ≤ (idatWrap crc ds).length := by
  induction ds with
  | nil => simp [idatWrap]
  | cons d ds ih =>
    rw [idatWrap_cons, List.flatten_cons, List.length_append, List.length_append, pngChunk_length]; omega

theorem mem_wrap_of_mem_flatten (crc : Bytes → Nat) (ds : List Bytes) (b : Nat) :
    b ∈ ds.flatten → b ∈ idatWrap crc ds := by
  induction ds with
  | nil => simp
  | cons d ds ih =>
    rw [idatWrap_cons, List.flatten_cons, List.mem_append, List.mem_append]
    rintro (h | h)
    · exact .inl (by simp [pngChunk, h])
    · exact .inr (ih h)

theorem pngChunk_fields {crc : Bytes → Nat} {t d rest : Bytes} (ht : t = pngChunk crc idatTag d ++ rest) :
    t.take 4 = be32 d.length ∧ (t.drop 4).take 4 = idatTag ∧ (t.drop 8).take d.length = d ∧
    (t.drop (d.length + 8)).take 4 = be32 (crc (idatTag ++ d)) ∧ t.drop (d.length + 12) = rest := by
  have e : t = be32 d.length ++ (idatTag ++ (d ++ (be32 (crc (idatTag ++ d)) ++ rest))) := by
    rw [ht]; simp only [pngChunk, List.append_assoc]
  have e4 := List.drop_left' (l₂ := idatTag ++ (d ++ (be32 (crc (idatTag ++ d)) ++ rest))) (be32_length d.length)
  have e8 : t.drop 8 = d ++ (be32 (crc (idatTag ++ d)) ++ rest) := by
    rw [e, show 8 = 4 + 4 from rfl, ← List.drop_drop, e4]; rfl
  have eL : t.drop (d.length + 8) = be32 (crc (idatTag ++ d)) ++ rest := by
    rw [Nat.add_comm, ← List.drop_drop, e8, List.drop_left]
  refine ⟨by rw [e]; exact List.take_left' rfl, by rw [e, e4]; rfl, by rw [e8, List.take_left],
    by rw [eL]; rfl, ?_⟩
  rw [show d.length + 12 = d.length + 8 + 4 from rfl, ← List.drop_drop, eL]; rfl

theorem not_idatEnd_pngChunk (crc : Bytes → Nat) (hcrc : ∀ x, crc x < 2 ^ 32) (d rest : Bytes)
    (hd : d ≠ []) (hlt : d.length < 2 ^ 32) : ¬ IdatEnd crc (pngChunk crc idatTag d ++ rest) := by
  obtain ⟨f1, f2, f3, f4, _⟩ := pngChunk_fields (crc := crc) (d := d) (rest := rest) rfl
  have hl : (pngChunk crc idatTag d ++ rest).length = d.length + 12 + rest.length := by
    rw [List.length_append, pngChunk_length]
  have h0 : d.length ≠ 0 := fun h => hd (List.eq_nil_of_length_eq_zero h)
  unfold IdatEnd
  rw [f1, f2, ofBe32_be32 _ hlt, f3, f4, ofBe32_be32 _ (hcrc _), hl]
  rintro (h | h | h | h | h)
  · omega
  · exact h rfl
  · omega
  · exact h0 h
  · exact h rfl

theorem pngChunk_of_not_idatEnd (crc : Bytes → Nat) (t : Bytes) (hb : ∀ b ∈ t, b < 256)
    (h : ¬ IdatEnd crc t) {L : Nat} (hL : ofBe32 (t.take 4) = L) :
    ((t.drop 8).take L).length = L ∧ L ≠ 0 ∧ L < 2 ^ 32 ∧ L + 12 ≤ t.length ∧
    t = pngChunk crc idatTag ((t.drop 8).take L) ++ t.drop (L + 12) := by
  have hbt : ∀ k n, ∀ b ∈ (t.drop k).take n, b < 256 :=
    fun k n b hm => hb b (List.mem_of_mem_drop (List.mem_of_mem_take hm))
  have hlt := ofBe32_lt (t.take 4) (hbt 0 4)
  simp only [IdatEnd, not_or, Nat.not_lt, ne_eq, Decidable.not_not] at h
  obtain ⟨h12, hty, hfit, h0, hcrc⟩ := h
  have b1 : be32 (ofBe32 (t.take 4)) = t.take 4 :=
    be32_ofBe32 _ (by rw [List.length_take]; omega) (hbt 0 4)
  rw [hL] at hlt hfit h0 hcrc b1
  have hlen : ((t.drop 8).take L).length = L := by rw [List.length_take, List.length_drop]; omega
  have b2 : be32 (crc (idatTag ++ (t.drop 8).take L)) = (t.drop (L + 8)).take 4 := by
    rw [hcrc]; exact be32_ofBe32 _ (by rw [List.length_take, List.length_drop]; omega) (hbt _ 4)
  refine ⟨hlen, h0, hlt, hfit, ?_⟩
  have k2 : t.drop 4 = (t.drop 4).take 4 ++ t.drop 8 := drop_split t 4 4
  have k3 : t.drop 8 = (t.drop 8).take L ++ t.drop (L + 8) := Nat.add_comm 8 L ▸ drop_split t 8 L
  have k4 : t.drop (L + 8) = (t.drop (L + 8)).take 4 ++ t.drop (L + 12) := drop_split t (L + 8) 4
  rw [pngChunk, hlen, b1, b2, ← hty]
  conv => lhs; rw [← List.take_append_drop 4 t, k2, k3, k4]
  simp only [List.append_assoc]

theorem idatChunks_end {crc : Bytes → Nat} {s : Bytes} {pos : Nat} (h : IdatEnd crc (s.drop pos))
    (fuel : Nat) (payload : Bytes) (sizes : List Nat) :
    idatChunks crc s (fuel + 1) pos payload sizes = .ok (payload, sizes, pos) := by
  rw [idatChunks]
  by_cases h12 : pos + 12 ≤ s.length
  · rw [if_pos h12]
    dsimp only
    by_cases hc : (s.drop (pos + 4)).take 4 ≠ idatTag ∨ pos + ofBe32 ((s.drop pos).take 4) + 12 > s.length
    · rw [if_pos hc]
    rw [if_neg hc]
    by_cases h0 : ofBe32 ((s.drop pos).take 4) = 0
    · rw [if_pos h0]
    rw [if_neg h0]
    by_cases hcrc : crc ((s.drop (pos + 4)).take 4 ++ (s.drop (pos + 8)).take (ofBe32 ((s.drop pos).take 4))) ≠
        ofBe32 ((s.drop (pos + ofBe32 ((s.drop pos).take 4) + 8)).take 4)
    · rw [if_pos hcrc]
    simp only [IdatEnd, List.drop_drop, List.length_drop] at h
    rw [not_or, Decidable.not_not] at hc
    rw [hc.1, Nat.add_assoc] at hcrc
    rcases h with h | h | h | h | h
    · omega
    · exact absurd hc.1 h
    · omega
    · exact absurd h h0
    · exact absurd h hcrc
  · rw [if_neg h12]

theorem idatChunks_more {crc : Bytes → Nat} {s t : Bytes} {pos L : Nat} (ht : s.drop pos = t)
    (h : ¬ IdatEnd crc t) (hL : ofBe32 (t.take 4) = L) (fuel : Nat) (payload : Bytes) (sizes : List Nat) :
    idatChunks crc s (fuel + 1) pos payload sizes =
      idatChunks crc s fuel (pos + L + 12) (payload ++ (t.drop 8).take L) (sizes ++ [L]) := by
  subst ht hL
  simp only [IdatEnd, not_or, Nat.not_lt, ne_eq, Decidable.not_not, List.drop_drop, List.length_drop] at h
  obtain ⟨h12, hty, hfit, h0, hcrc⟩ := h
  rw [idatChunks, if_pos (by omega)]
  dsimp only
  rw [if_neg (by rw [hty]; simp only [ne_eq, not_true_eq_false, false_or]; omega), if_neg h0, hty,
    if_neg (by rw [hcrc, Nat.add_assoc]; exact fun h => h rfl), List.drop_drop]

theorem idatChunks_walk (crc : Bytes → Nat) (hcrc : ∀ x, crc x < 2 ^ 32) (s suf : Bytes) (hend : IdatEnd crc suf) :
    ∀ (ps : List Bytes) (pos fuel : Nat) (payload : Bytes) (sizes : List Nat),
      s.drop pos = idatWrap crc ps ++ suf → (∀ p ∈ ps, p ≠ [] ∧ p.length < 2 ^ 32) → (idatWrap crc ps).length < fuel →
      idatChunks crc s fuel pos payload sizes =
        .ok (payload ++ ps.flatten, sizes ++ ps.map List.length, pos + (idatWrap crc ps).length) := by
  intro ps
  induction ps with
  | nil =>
    intro pos fuel payload sizes hs _ hf
    obtain ⟨fuel, rfl⟩ : ∃ f, fuel = f + 1 := ⟨fuel - 1, by omega⟩
    rw [idatChunks_end (by rw [hs]; exact hend)]
    simp [idatWrap]
  | cons p ps ih =>
    intro pos fuel payload sizes hs hp hf
    obtain ⟨fuel, rfl⟩ : ∃ f, fuel = f + 1 := ⟨fuel - 1, by omega⟩
    obtain ⟨hpne, hplt⟩ := hp p List.mem_cons_self
    rw [idatWrap_cons, List.append_assoc] at hs
    obtain ⟨f1, _, f3, _, f5⟩ := pngChunk_fields hs
    rw [idatChunks_more rfl (hs ▸ not_idatEnd_pngChunk crc hcrc p _ hpne hplt)
        (by rw [f1, ofBe32_be32 _ hplt]), f3,
      ih _ fuel _ _ (by rw [Nat.add_assoc, ← List.drop_drop, f5])
        (fun x hx => hp x (List.mem_cons_of_mem _ hx))
        (by rw [idatWrap_cons, List.length_append, pngChunk_length] at hf; omega),
      idatWrap_cons, List.length_append, pngChunk_length]
    simp only [List.flatten_cons, List.map_cons, List.append_assoc, List.singleton_append, Nat.add_assoc,
      Nat.add_comm 12]

theorem idatChunks_spec (crc : Bytes → Nat) (s : Bytes) (hb : ∀ b ∈ s, b < 256) :
    ∀ (fuel pos : Nat) (payload : Bytes) (sizes : List Nat) (payload' : Bytes) (sizes' : List Nat)
      (pos' : Nat),
      idatChunks crc s fuel pos payload sizes = .ok (payload', sizes', pos') →
      ∃ ds : List Bytes, payload' = payload ++ ds.flatten ∧ sizes' = sizes ++ ds.map List.length ∧
        s.drop pos = idatWrap crc ds ++ s.drop pos' ∧ pos' = pos + (idatWrap crc ds).length ∧
        ∀ d ∈ ds, d.length ≠ 0 ∧ d.length < 2 ^ 32 := by
  intro fuel
  induction fuel with
  | zero => intro _ _ _ _ _ _ h; cases h
  | succ fuel ih =>
    intro pos payload sizes payload' sizes' pos' h
    by_cases hend : IdatEnd crc (s.drop pos)
    · rw [idatChunks_end hend] at h
      cases h
      exact ⟨[], by simp, by simp, by simp [idatWrap], by simp [idatWrap], by simp⟩
    · rw [idatChunks_more rfl hend rfl] at h
      obtain ⟨hlen, h0, hlt, _, hsplit⟩ :=
        pngChunk_of_not_idatEnd crc _ (fun b hm => hb b (List.mem_of_mem_drop hm)) hend rfl
      generalize ofBe32 ((s.drop pos).take 4) = L at *
      generalize ((s.drop pos).drop 8).take L = d at *
      obtain ⟨ds, rfl, rfl, hdrop, rfl, hds⟩ := ih _ _ _ _ _ _ h
      rw [List.drop_drop, ← Nat.add_assoc] at hsplit
      refine ⟨d :: ds, by simp, by simp [hlen], ?_, ?_, ?_⟩
      · rw [hsplit, hdrop, idatWrap_cons, List.append_assoc]
      · rw [idatWrap_cons, List.length_append, pngChunk_length, hlen]; omega
      · intro x hx
        rcases List.mem_cons.mp hx with rfl | hx
        · rw [hlen]; exact ⟨h0, hlt⟩
        · exact hds x hx

theorem idatChunks_le (crc : Bytes → Nat) (s : Bytes) : ∀ (fuel pos : Nat) (payload : Bytes) (sizes : List Nat)
    (r : Bytes × List Nat × Nat), idatChunks crc s fuel pos payload sizes = .ok r → pos ≤ s.length →
    r.2.2 ≤ s.length := by
  intro fuel
  induction fuel with
  | zero => intro _ _ _ _ h; cases h
  | succ fuel ih =>
    intro pos payload sizes r h hpos
    by_cases hend : IdatEnd crc (s.drop pos)
    · rw [idatChunks_end hend] at h
      cases h; exact hpos
    · rw [idatChunks_more rfl hend rfl] at h
      refine ih _ _ _ _ h ?_
      simp only [IdatEnd, not_or, Nat.not_lt, List.length_drop] at hend
      omega

def idatFinish (x : Bytes × List Nat × Nat) : R (IdatContents × Bytes) :=
  if x.1.length < 6 then .error .err
  else .ok (⟨x.2.1, x.1.take 2, x.2.2, ofBe32 (x.1.drop (x.1.length - 4))⟩,
    (x.1.drop 2).take (x.1.length - 6))

theorem parseIdat_eq (crc : Bytes → Nat) (s : Bytes) : parseIdat crc s =
    if s.length < 12 ∨ (s.drop 4).take 4 ≠ idatTag then .error .err
    else idatChunks crc s (s.length + 1) 0 [] [] >>= idatFinish := rfl

theorem parseIdat_ok {crc : Bytes → Nat} {s pl : Bytes} {c : IdatContents} (h : parseIdat crc s = .ok (c, pl)) :
    ∃ payload sizes pos, idatChunks crc s (s.length + 1) 0 [] [] = .ok (payload, sizes, pos) ∧
      6 ≤ payload.length ∧ c = ⟨sizes, payload.take 2, pos, ofBe32 (payload.drop (payload.length - 4))⟩ ∧
      pl = (payload.drop 2).take (payload.length - 6) := by
  rw [parseIdat_eq] at h
  by_cases h1 : s.length < 12 ∨ (s.drop 4).take 4 ≠ idatTag
  · rw [if_pos h1] at h; cases h
  · rw [if_neg h1] at h
    obtain ⟨⟨payload, sizes, pos⟩, hc, h⟩ := (bind_eq_ok ..).mp h
    unfold idatFinish at h
    by_cases h6 : payload.length < 6
    · rw [if_pos h6] at h; cases h
    · rw [if_neg h6] at h
      cases h
      exact ⟨payload, sizes, pos, hc, by omega, rfl, rfl⟩

theorem parseIdat_total_le {crc : Bytes → Nat} {s pl : Bytes} {c : IdatContents}
    (h : parseIdat crc s = .ok (c, pl)) : c.totalChunkLength ≤ s.length := by
  obtain ⟨payload, sizes, pos, hc, _, rfl, _⟩ := parseIdat_ok h
  exact idatChunks_le crc s _ _ _ _ _ hc (Nat.zero_le _)

theorem parseIdat_idatWrap (crc : Bytes → Nat) (hcrc : ∀ x, crc x < 2 ^ 32) (suf : Bytes) (hend : IdatEnd crc suf)
    (pieces : List Bytes) (hp : ∀ p ∈ pieces, p ≠ [] ∧ p.length < 2 ^ 32) (hne : pieces ≠ [])
    (hdr s adler : Bytes) (hcat : pieces.flatten = hdr ++ s ++ adler) (hhdr : hdr.length = 2)
    (had : adler.length = 4) :
    ∃ c, parseIdat crc (idatWrap crc pieces ++ suf) = .ok (c, s) ∧
      c.totalChunkLength = (idatWrap crc pieces).length := by
  have hwalk := idatChunks_walk crc hcrc (idatWrap crc pieces ++ suf) suf hend pieces 0
    ((idatWrap crc pieces ++ suf).length + 1) [] [] rfl hp (by rw [List.length_append]; omega)
  obtain ⟨p, ps, rfl⟩ := List.exists_cons_of_ne_nil hne
  have hl : ((p :: ps).flatten).length = s.length + 6 := by
    rw [hcat]; simp only [List.length_append, hhdr, had]; omega
  have hs : List.take ((p :: ps).flatten.length - 6) (List.drop 2 (p :: ps).flatten) = s := by
    rw [hl, hcat, List.append_assoc, ← hhdr, List.drop_left, Nat.add_sub_cancel, List.take_left]
  have h12 : ¬ ((idatWrap crc (p :: ps) ++ suf).length < 12 ∨
      ((idatWrap crc (p :: ps) ++ suf).drop 4).take 4 ≠ idatTag) := by
    rw [idatWrap_cons, List.append_assoc, (pngChunk_fields rfl).2.1, List.length_append, pngChunk_length]
    exact fun h => h.elim (by omega) (fun h => h rfl)
  rw [parseIdat_eq, if_neg h12, hwalk, ok_bind, idatFinish]
  dsimp only
  rw [List.nil_append, if_neg (by omega), hs]
  exact ⟨_, rfl, Nat.zero_add _⟩

theorem idatEmit_wrap (crc : Bytes → Nat) : ∀ (ds : List Bytes) (pre contents : Bytes) (idx : Nat),
    contents = pre ++ ds.flatten → idx = pre.length →
    idatEmit crc contents idx (ds.map List.length) = .ok (idatWrap crc ds) := by
  intro ds
  induction ds with
  | nil => intro _ _ _ _ _; rfl
  | cons d ds ih =>
    intro pre contents idx hc hi
    subst hc hi
    have hrec := ih (pre ++ d) (pre ++ (d ++ ds.flatten)) (pre.length + d.length) (by simp) (by simp)
    simp only [List.map_cons, idatEmit, List.length_append, List.flatten_cons, hrec, ok_bind, idatWrap_cons,
      pngChunk, List.drop_left, List.take_left, gt_iff_lt, if_neg (Nat.not_lt.mpr (by omega :
        pre.length + d.length ≤ pre.length + (d.length + ds.flatten.length)))]

/-- The scanner's candidates, i.e. what it may ask the oracle about: `d` could have been cut out of `f`
    (not longer, and made of bytes that occur in `f`). Not the match candidates of `EstimateTotalCand`. -/
def Cand (f d : Bytes) : Prop := d.length ≤ f.length ∧ ∀ b ∈ d, b ∈ f

theorem cand_drop (f : Bytes) (k : Nat) : Cand f (f.drop k) :=
  ⟨by simp only [List.length_drop]; omega, fun _ h => List.mem_of_mem_drop h⟩

theorem cand_trans {f s d : Bytes} (h1 : Cand f s) (h2 : Cand s d) : Cand f d :=
  ⟨Nat.le_trans h2.1 h1.1, fun b h => h1.2 b (h2.2 b h)⟩

/-- `recreate_idat` is stated for every `c'` that agrees with `c` in the three fields it reads:
    `IdatContents::read_from_bytestream` recomputes `totalChunkLength`, so what the chunk reader passes on
    is such a `c'`, not `c` itself. -/
theorem parseIdat_spec (crc : Bytes → Nat) (s : Bytes) (hb : ∀ b ∈ s, b < 256)
    (hs : s.length < 2 ^ 32) (c : IdatContents) (pl : Bytes)
    (h : parseIdat crc s = .ok (c, pl)) :
    Cand s pl ∧ (∀ x ∈ c.chunkSizes, x ≠ 0 ∧ x < 2 ^ 32) ∧
    c.zlibHeader.length = 2 ∧ c.adler < 2 ^ 32 ∧
    ∀ c' : IdatContents, c'.chunkSizes = c.chunkSizes → c'.zlibHeader = c.zlibHeader →
      c'.adler = c.adler → recreateIdat crc c' pl = .ok (s.take c.totalChunkLength) := by
  obtain ⟨payload, sizes, pos, hc, h6, rfl, rfl⟩ := parseIdat_ok h
  obtain ⟨ds, hp, hsz, hdrop, hpos, hds⟩ := idatChunks_spec crc s hb _ _ _ _ _ _ _ hc
  simp only [List.nil_append, List.drop_zero, Nat.zero_add] at hp hsz hdrop hpos
  have hmem : ∀ b ∈ payload, b ∈ s := fun b hm => by
    rw [hdrop]; exact List.mem_append_left _ (mem_wrap_of_mem_flatten crc ds b (hp ▸ hm))
  have hbp : ∀ b ∈ payload, b < 256 := fun b hm => hb b (hmem b hm)
  have hwl : payload.length ≤ pos := by rw [hp, hpos]; exact length_flatten_le_wrap crc ds
  have hpl : pos ≤ s.length := idatChunks_le crc s _ _ _ _ _ hc (Nat.zero_le _)
  refine ⟨⟨by simp only [List.length_take, List.length_drop]; omega,
      fun b hm => hmem b (List.mem_of_mem_drop (List.mem_of_mem_take hm))⟩, ?_, ?_, ?_, ?_⟩
  · intro x hx
    obtain ⟨d, hd, rfl⟩ := List.mem_map.mp (hsz ▸ hx)
    exact hds d hd
  · simp only [List.length_take]; omega
  · exact ofBe32_lt _ (fun b hm => hbp b (List.mem_of_mem_drop hm))
  · intro c' e1 e2 e3
    have hbe : be32 c'.adler = payload.drop (payload.length - 4) := by
      rw [e3]
      exact be32_ofBe32 _ (by simp only [List.length_drop]; omega)
        (fun b hm => hbp b (List.mem_of_mem_drop hm))
    have hcontents : c'.zlibHeader ++ (payload.drop 2).take (payload.length - 6) ++
        be32 c'.adler = payload := by
      have k1 := drop_split payload 2 (payload.length - 6)
      rw [show 2 + (payload.length - 6) = payload.length - 4 by omega] at k1
      rw [e2, hbe, List.append_assoc, ← k1, List.take_append_drop]
    have hne : ¬ (c'.chunkSizes.sum % 4294967296 ≠
        ((payload.drop 2).take (payload.length - 6)).length + 6) := by
      rw [e1, hsz, ← List.length_flatten, ← hp, Nat.mod_eq_of_lt (by omega)]
      simp only [List.length_take, List.length_drop]; omega
    rw [recreateIdat, if_neg hne, hcontents, e1, hsz,
      show s.take pos = idatWrap crc ds from hdrop ▸ List.take_left' hpos.symm]
    exact idatEmit_wrap crc ds [] payload 0 hp rfl

theorem length_le_flatMap_varint (sizes : List Nat) : sizes.length ≤ (sizes.flatMap varint).length := by
  induction sizes with
  | nil => simp
  | cons x xs ih =>
    have := varint_length_pos x
    simp only [List.flatMap_cons, List.length_append, List.length_cons]; omega

theorem readSizes_write : ∀ (sizes : List Nat) (fuel : Nat) (rest : Bytes),
    (∀ x ∈ sizes, x ≠ 0 ∧ x < 2 ^ 32) → sizes.length + 1 ≤ fuel →
    readSizes fuel (sizes.flatMap varint ++ varint 0 ++ rest) = .ok (sizes, rest) := by
  intro sizes
  induction sizes with
  | nil =>
    intro fuel rest _ hf
    obtain ⟨f, rfl⟩ : ∃ f, fuel = f + 1 := ⟨fuel - 1, by simp at hf; omega⟩
    simp only [List.flatMap_nil, List.nil_append, readSizes,
      varint_lt 0 (by omega) rest, ok_bind, if_true]
  | cons x xs ih =>
    intro fuel rest hx hf
    obtain ⟨f, rfl⟩ : ∃ f, fuel = f + 1 := ⟨fuel - 1, by simp at hf; omega⟩
    have hx0 := hx x (by simp)
    have hrec := ih f rest (fun y hy => hx y (by simp [hy])) (by simp at hf; omega)
    simp only [List.flatMap_cons, List.append_assoc, readSizes,
      varint_lt x hx0.2 _, ok_bind, if_neg hx0.1]
    rw [← List.append_assoc, hrec]
    rfl

theorem readIdatContents_write (c : IdatContents) (rest : Bytes)
    (hsz : ∀ x ∈ c.chunkSizes, x ≠ 0 ∧ x < 2 ^ 32) (hh : c.zlibHeader.length = 2)
    (ha : c.adler < 2 ^ 32) :
    ∃ c', readIdatContents (writeIdatContents c ++ rest) = .ok (c', rest) ∧
      c'.chunkSizes = c.chunkSizes ∧ c'.zlibHeader = c.zlibHeader ∧ c'.adler = c.adler := by
  have h1 : writeIdatContents c ++ rest =
      c.chunkSizes.flatMap varint ++ varint 0 ++ (c.zlibHeader ++ (be32 c.adler ++ rest)) := by
    simp [writeIdatContents]
  have hfuel : c.chunkSizes.length + 1 ≤ (writeIdatContents c ++ rest).length + 1 := by
    have := length_le_flatMap_varint c.chunkSizes
    rw [h1]; simp only [List.length_append]; omega
  rw [readIdatContents, h1] at *
  rw [readSizes_write c.chunkSizes _ _ hsz hfuel, ok_bind]
  dsimp only
  rw [takeExact_append _ _ hh, ok_bind]
  dsimp only
  rw [takeExact_append _ _ (be32_length _), ok_bind]
  exact ⟨_, rfl, rfl, rfl, ofBe32_be32 _ ha⟩

end Preflate.Proofs

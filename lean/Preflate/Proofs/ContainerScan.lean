/-
The scanner. The header parsers are brought into an equational form (`skipGzipHeader_eq`, `parseZipStream_eq`;
`parseIdat_eq` in ContainerIdat); from it, that a parser does not panic and returns a length within its input
(`Good`). One step of the loop at a signature (`scanAt_spec`) returns nothing or a literal and a stream chunk
that continue a covering of the file; the loop (`scanLoop_spec`) returns a covering.
-/
import Preflate.Proofs.ContainerChunks
import Preflate.Proofs.Total
namespace Preflate.Proofs
open Preflate

abbrev Good {α : Type} (P : α → Prop) : R α → Prop := Post (fun e => ∀ m, e ≠ .panic m) P

theorem Good_guard {α : Type} {P : α → Prop} {c : Prop} [Decidable c] {y : R α} (hy : ¬ c → Good P y) :
    Good P (if c then .error .err else y) :=
  Post.ite (fun _ => .error _ nofun) hy

theorem Good_of_nopanic {α : Type} {x : R α} (h : ∀ m, x ≠ .error (.panic m)) :
    Good (fun a => x = .ok a) x := by
  cases x with
  | ok a => exact .ok a rfl
  | error e => exact .error e fun m he => h m (he ▸ rfl)

theorem probe_good {α : Type} {P : α → Prop} {x : R α} (hx : Good P x) :
    Post (fun _ => False) (fun r => ∀ a, r = some a → P a) (probe x) := by
  cases hx with
  | ok a h => exact .ok _ fun _ e => Option.some.inj e ▸ h
  | error e h =>
    cases e with
    | panic m => exact (h m rfl).elim
    | err => exact .ok none nofun
    | fuel => exact .ok none nofun

theorem probe_of_ok {α} {x : R α} {a : α} (h : x = .ok a) : probe x = .ok (some a) := by
  subst h; rfl

theorem nextSignature_some {src : Bytes} : ∀ {fuel i j sg}, nextSignature src fuel i = some (j, sg) →
    i ≤ j ∧ j + 1 < src.length ∧ sigOf (src.getD j 0) (src.getD (j+1) 0) = some sg ∧
    ∀ k, i ≤ k → k < j → sigOf (src.getD k 0) (src.getD (k+1) 0) = none := by
  intro fuel
  induction fuel with
  | zero => intro i j sg h; cases h
  | succ fuel ih =>
    intro i j sg h
    rw [nextSignature] at h
    by_cases hlt : i + 1 < src.length
    · rw [if_pos hlt] at h
      cases hs : sigOf (src.getD i 0) (src.getD (i + 1) 0) with
      | some s =>
        rw [hs] at h
        cases h
        exact ⟨Nat.le_refl _, hlt, hs, fun k h1 h2 => by omega⟩
      | none =>
        rw [hs] at h
        obtain ⟨h1, h2, h3, h4⟩ := ih h
        refine ⟨by omega, h2, h3, fun k hk1 hk2 => ?_⟩
        by_cases hk : k = i
        · subst hk; exact hs
        · exact h4 k (by omega) hk2
    · rw [if_neg hlt] at h; cases h

theorem nextSignature_at {src : Bytes} {q : Nat} {sg : Sig} (fuel : Nat) (hq : q + 1 < src.length)
    (hsig : sigOf (src.getD q 0) (src.getD (q + 1) 0) = some sg) :
    nextSignature src (fuel + 1) q = some (q, sg) := by
  rw [nextSignature, if_pos hq, hsig]

theorem nextSignature_none {src : Bytes} : ∀ {fuel i}, nextSignature src fuel i = none →
    src.length ≤ fuel + i →
    ∀ k, i ≤ k → k + 1 < src.length → sigOf (src.getD k 0) (src.getD (k+1) 0) = none := by
  intro fuel
  induction fuel with
  | zero => intro i h hl k hk1 hk2; omega
  | succ fuel ih =>
    intro i h hl k hk1 hk2
    rw [nextSignature, if_pos (by omega)] at h
    cases hs : sigOf (src.getD i 0) (src.getD (i + 1) 0) with
    | some s => rw [hs] at h; cases h
    | none =>
      rw [hs] at h
      by_cases hk : k = i
      · subst hk; exact hs
      · exact ih h (by omega) k (by omega) hk2

/- `skip_gzip_header` after the fixed part: FEXTRA, FNAME, FCOMMENT, FHCRC, each behind its flag bit. -/
def gzExtra (s : Bytes) : R Nat :=
  if s.getD 3 0 / 4 % 2 = 1 then
    (if s.length < 12 then .error .err
     else if s.length < 12 + ofLe16 ((s.drop 10).take 2) then .error .err
     else .ok (12 + ofLe16 ((s.drop 10).take 2)))
  else .ok 10
def gzStr (s : Bytes) (bit n : Nat) : R Nat :=
  if s.getD 3 0 / bit % 2 = 1 then skipCString (s.drop n) n else .ok n
def gzCrc (s : Bytes) (n : Nat) : R Nat :=
  if s.getD 3 0 / 2 % 2 = 1 then (if s.length < n + 2 then .error .err else .ok (n + 2)) else .ok n

theorem skipGzipHeader_eq (s : Bytes) : skipGzipHeader s =
    if s.length < 10 then .error .err else if s.getD 2 0 ≠ 8 then .error .err
    else gzExtra s >>= fun n => gzStr s 8 n >>= fun n => gzStr s 16 n >>= fun n => gzCrc s n >>=
      fun n => .ok n := rfl

theorem skipCString_good : ∀ (bs : Bytes) (n : Nat),
    Good (fun m => n + 1 ≤ m ∧ m ≤ n + bs.length) (skipCString bs n) := by
  intro bs
  induction bs with
  | nil => intro n; exact .error _ nofun
  | cons b bs ih =>
    intro n
    rw [skipCString]
    refine Post.ite (fun _ => .ok _ ⟨Nat.le_refl _, by simp⟩) fun _ => ?_
    exact (ih (n + 1)).mono (fun _ h => h) fun a ha => ⟨by omega, by simp only [List.length_cons]; omega⟩

theorem gzStr_good {s : Bytes} {n : Nat} (bit : Nat) (hn : 10 ≤ n ∧ n ≤ s.length) :
    Good (fun m => 10 ≤ m ∧ m ≤ s.length) (gzStr s bit n) :=
  Post.ite (fun _ => (skipCString_good _ n).mono (fun _ h => h) fun a ha => by
    rw [List.length_drop] at ha; omega) (fun _ => .ok _ hn)

theorem skipGzipHeader_good (s : Bytes) :
    Good (fun h => 10 ≤ h ∧ h ≤ s.length) (skipGzipHeader s) := by
  rw [skipGzipHeader_eq]
  refine Good_guard fun h10 => Good_guard fun _ => ?_
  refine Post.seq (Q := fun n => 10 ≤ n ∧ n ≤ s.length) ?_ fun a ha =>
    (gzStr_good 8 ha).seq fun b hb => (gzStr_good 16 hb).seq fun c hc =>
    Post.seq (Q := fun n => 10 ≤ n ∧ n ≤ s.length) ?_ fun _ hd => .ok _ hd
  · exact Post.ite (fun _ => Good_guard fun _ => Good_guard fun _ => .ok _ ⟨by omega, by omega⟩)
      fun _ => .ok _ ⟨by omega, by omega⟩
  · exact Post.ite (fun _ => Good_guard fun _ => .ok _ ⟨by omega, by omega⟩) fun _ => .ok _ hc

def zipVerify (o : Oracle) (s : Bytes) (start : Nat) : R (Nat × Res) :=
  match o.verified (s.drop start) with
  | .ok r => .ok (start, r)
  | .error (.panic m) => .error (.panic m)
  | .error _ => .error .err

theorem parseZipStream_eq (o : Oracle) (s : Bytes) : parseZipStream o s =
    if s.length < 30 then .error .err
    else if ofLe32 (s.take 4) ≠ Gen.ZIP_LOCAL_FILE_HEADER_SIGNATURE then .error .err
    else if s.length < 30 + ofLe16 ((s.drop 26).take 2) then .error .err
    else if ofLe16 ((s.drop 8).take 2) = 8 then
      if 30 + ofLe16 ((s.drop 26).take 2) + ofLe16 ((s.drop 28).take 2) > s.length then .error .err
      else zipVerify o s (30 + ofLe16 ((s.drop 26).take 2) + ofLe16 ((s.drop 28).take 2))
    else .error .err := rfl

theorem parseZipStream_good (o : Oracle) (s : Bytes) (hnp : ∀ k m, o.verified (s.drop k) ≠ .error (.panic m)) :
    Good (fun p => 30 ≤ p.1 ∧ p.1 ≤ s.length ∧ o.verified (s.drop p.1) = .ok p.2)
      (parseZipStream o s) := by
  rw [parseZipStream_eq]
  refine Good_guard fun _ => Good_guard fun _ => Good_guard fun _ =>
    Post.ite (fun _ => Good_guard fun _ => ?_) fun _ => .error _ nofun
  unfold zipVerify
  generalize hv : o.verified _ = v
  cases v with
  | ok r => exact .ok _ ⟨by omega, by omega, hv⟩
  | error e =>
    cases e with
    | panic m => exact (hnp _ m hv).elim
    | err => exact .error _ nofun
    | fuel => exact .error _ nofun

theorem idatChunks_good (crc : Bytes → Nat) (s : Bytes) : ∀ (fuel pos : Nat) (payload : Bytes)
    (sizes : List Nat), Good (fun _ => True) (idatChunks crc s fuel pos payload sizes) := by
  intro fuel
  induction fuel with
  | zero => intro _ _ _; exact .error _ nofun
  | succ fuel ih =>
    intro pos payload sizes
    by_cases hend : IdatEnd crc (s.drop pos)
    · rw [idatChunks_end hend]; exact .ok _ trivial
    · rw [idatChunks_more rfl hend rfl]; exact ih _ _ _

theorem parseIdat_good (crc : Bytes → Nat) (s : Bytes) :
    Good (fun p => parseIdat crc s = .ok p) (parseIdat crc s) := by
  refine Good_of_nopanic fun m h => ?_
  have : Good (fun _ => True) (parseIdat crc s) := by
    rw [parseIdat_eq]
    exact Good_guard fun _ => (idatChunks_good crc s _ _ _ _).seq fun a _ =>
      Good_guard fun _ => .ok _ trivial
  rw [h] at this
  exact Post.error_iff.mp this m rfl

/-- what `scanAt` returns at `index`: nothing, or a literal up to the start of a stream and the stream's
    chunk, which end behind `index` and inside the file -/
def Accepts (o : Oracle) (crc : Bytes → Nat) (src : Bytes) (index prev : Nat) :
    Option (List Chunk × Nat) → Prop
  | none => True
  | some (cs, next) => ∃ n X, cs = [.literal n, X] ∧ ChunkOk o crc src (prev + n) X ∧
      next = prev + n + X.extent ∧ index < next ∧ next ≤ src.length

theorem Accepts.bounds {o : Oracle} {crc : Bytes → Nat} {src : Bytes} {index prev next : Nat} {cs : List Chunk}
    (h : Accepts o crc src index prev (some (cs, next))) : index < next ∧ next ≤ src.length := by
  obtain ⟨_, _, _, _, _, hlt, hle⟩ := h
  exact ⟨hlt, hle⟩

/-- the scanner's probing step: `x` does not panic, a failure of `x` gives up the candidate -/
theorem Accepts.probe {α : Type} {o : Oracle} {crc : Bytes → Nat} {src : Bytes} {index prev : Nat}
    {P : α → Prop} {x : R α} {f : Option α → R (Option (List Chunk × Nat))} (hx : Good P x)
    (hf : ∀ a, P a → Post (fun _ => False) (Accepts o crc src index prev) (f (some a)))
    (hnone : f none = .ok none) :
    Post (fun _ => False) (Accepts o crc src index prev) (Preflate.probe x >>= f) := by
  refine (probe_good hx).seq ?_
  rintro (_ | a) ha
  · rw [hnone]; exact .ok _ trivial
  · exact hf a (ha a rfl)

/-- the scanner's last step: behind a threshold test it emits the literal up to `st` and a chunk `X`
    found there that ends behind `index` and inside the file -/
theorem Accepts.emit {o : Oracle} {crc : Bytes → Nat} {src : Bytes} {index prev st lit : Nat} {X : Chunk}
    {c : Prop} [Decidable c] (hlit : prev + lit = st)
    (h : c → ChunkOk o crc src st X ∧ index < st + X.extent ∧ st + X.extent ≤ src.length) :
    Post (fun _ => False) (Accepts o crc src index prev)
      (if c then .ok (some ([.literal lit, X], st + X.extent)) else .ok none) := by
  subst hlit
  refine Post.ite (fun hc => .ok _ ?_) fun _ => .ok _ trivial
  obtain ⟨hX, hlt, hle⟩ := h hc
  exact ⟨lit, X, rfl, hX, rfl, hlt, hle⟩

theorem scanAt_spec (o : Oracle) (crc : Bytes → Nat) (src : Bytes)
    (hnp : ∀ d m, Asked crc src d → o.verified d ≠ .error (.panic m)) (index prev : Nat) (sg : Sig)
    (hprev : prev ≤ index) (hidx : index + 1 < src.length) :
    Post (fun _ => False) (Accepts o crc src index prev) (scanAt o crc src index prev sg) := by
  have hv : ∀ d, Asked crc src d → Good (fun r => o.verified d = .ok r) (o.verified d) :=
    fun d hd => Good_of_nopanic fun m => hnp d m hd
  -- a stream the oracle verified at `st`, behind `index`
  have hdefl : ∀ {st r}, index < st → st ≤ src.length → o.verified (src.drop st) = .ok r →
      ChunkOk o crc src st (.deflate r) ∧ index < st + r.size ∧ st + r.size ≤ src.length := by
    intro st r h1 h2 hr
    have hle := (verified_ok hr).2.2
    rw [List.length_drop] at hle
    exact ⟨hr, by omega, by omega⟩
  cases sg with
  | zlib =>
    rw [scanAt]
    refine Accepts.probe (hv _ (.drop _)) (fun r hr => ?_) rfl
    exact Accepts.emit (by omega) fun _ => hdefl (by omega) (by omega) hr
  | gzip =>
    rw [scanAt]
    refine Accepts.probe (skipGzipHeader_good _) (fun h hh => ?_) rfl
    rw [List.length_drop] at hh
    refine Accepts.probe (hv _ (.drop _)) (fun r hr => ?_) rfl
    exact Accepts.emit (by omega) fun _ => hdefl (by omega) (by omega) hr
  | zip =>
    rw [scanAt]
    refine Accepts.probe (parseZipStream_good o (src.drop index)
      fun k m => hnp _ m (List.drop_drop .. ▸ .drop (index + k))) (fun p hp => ?_) rfl
    obtain ⟨h, r⟩ := p
    rw [List.length_drop, List.drop_drop] at hp
    exact Accepts.emit (by omega) fun _ => hdefl (by omega) (by omega) hp.2.2
  | idat =>
    rw [scanAt]
    refine Post.ite (fun h4 => ?_) fun _ => .ok _ trivial
    refine Accepts.probe (parseIdat_good crc _) (fun p hp => ?_) rfl
    obtain ⟨c, payload⟩ := p
    refine Accepts.probe (hv payload (.idat hp)) (fun r hr => ?_) rfl
    have htot := parseIdat_total_le hp
    rw [List.length_drop] at htot
    have hmin : Gen.MIN_BLOCKSIZE = 1024 := rfl
    exact Accepts.emit (by omega) fun hc => ⟨⟨payload, hp, hr, hc.2⟩,
      (by omega : index < index - 4 + c.totalChunkLength), (by omega : _ + c.totalChunkLength ≤ _)⟩

theorem scanLoop_done {o : Oracle} {crc : Bytes → Nat} {src : Bytes} {index : Nat} (fuel prev : Nat)
    (h : nextSignature src (src.length + 1) index = none) :
    scanLoop o crc src (fuel + 1) index prev =
      .ok (if prev < src.length then [.literal (src.length - prev)] else []) := by
  rw [scanLoop, h]

theorem scanLoop_skip {o : Oracle} {crc : Bytes → Nat} {src : Bytes} {index prev i : Nat} {sg : Sig} (fuel : Nat)
    (h : nextSignature src (src.length + 1) index = some (i, sg))
    (hx : scanAt o crc src i prev sg = .ok none) :
    scanLoop o crc src (fuel + 1) index prev = scanLoop o crc src fuel (i + 1) prev := by
  rw [scanLoop, h]; dsimp only; rw [hx]; rfl

theorem scanLoop_take {o : Oracle} {crc : Bytes → Nat} {src : Bytes} {index prev i next : Nat} {sg : Sig}
    {cs : List Chunk} (fuel : Nat) (h : nextSignature src (src.length + 1) index = some (i, sg))
    (hx : scanAt o crc src i prev sg = .ok (some (cs, next))) :
    scanLoop o crc src (fuel + 1) index prev =
      scanLoop o crc src fuel next next >>= fun r => .ok (cs ++ r) := by
  rw [scanLoop, h]; dsimp only; rw [hx]; rfl

theorem scanLoop_index {o : Oracle} {crc : Bytes → Nat} {src : Bytes} {index index' : Nat} (fuel prev : Nat)
    (h : nextSignature src (src.length + 1) index = nextSignature src (src.length + 1) index') :
    scanLoop o crc src (fuel + 1) index prev = scanLoop o crc src (fuel + 1) index' prev := by
  rw [scanLoop, scanLoop, h]

theorem scanLoop_spec (o : Oracle) (crc : Bytes → Nat) (src : Bytes)
    (hnp : ∀ d m, Asked crc src d → o.verified d ≠ .error (.panic m)) :
    ∀ (fuel index prev : Nat), prev ≤ index → prev ≤ src.length → src.length + 1 ≤ fuel + index →
      1 ≤ fuel → Post (fun _ => False) (Covers o crc src prev) (scanLoop o crc src fuel index prev) := by
  intro fuel
  induction fuel with
  | zero => intro _ _ _ _ _ h; omega
  | succ fuel ih =>
    intro index prev hpi hpl hfuel _
    cases hns : nextSignature src (src.length + 1) index with
    | none =>
      rw [scanLoop_done _ _ hns]
      refine .ok _ ?_
      by_cases hlt : prev < src.length
      · rw [if_pos hlt]
        exact ⟨hpl, (by omega : prev + (src.length - prev) ≤ src.length),
          (by omega : prev + (src.length - prev) = src.length)⟩
      · rw [if_neg hlt]; exact Nat.le_antisymm hpl (Nat.le_of_not_lt hlt)
    | some p =>
      obtain ⟨i, sg⟩ := p
      obtain ⟨hii, hil, _, _⟩ := nextSignature_some hns
      obtain ⟨res, hres, hacc⟩ := (scanAt_spec o crc src hnp i prev sg (by omega) hil).exists_ok
      rcases res with _ | ⟨cs, next⟩
      · rw [scanLoop_skip _ hns hres]
        exact ih (i + 1) prev (by omega) hpl (by omega) (by omega)
      · obtain ⟨n, X, rfl, hok, rfl, hin, hnl⟩ := hacc
        rw [scanLoop_take _ hns hres]
        refine (ih _ _ (Nat.le_refl _) hnl (by omega) (by omega)).seq fun r hcov => .ok _ ?_
        have hn : prev + n ≤ src.length := by omega
        exact ⟨hpl, hn, hn, hok, hcov⟩

end Preflate.Proofs

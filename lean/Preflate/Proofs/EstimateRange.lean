/-
The complete parameter estimator (Model/EstimatorFull.lean: `Est.estimate`, the transcription of
`estimate_preflate_parameters`) only returns parameter vectors inside `EstimatorRange`
(Model/Params.lean) — on block lists that are a valid expansion of the plaintext (`StreamValid`,
what the parser is proved to return). The validity hypothesis is needed for two fields only:
`minLen` (the smallest reference length of the stream) and `maxDist3` (the largest distance of a
length-3 reference); `Counter.estimate_out_of_range_invalid` is a block list with a length-2
reference on which the estimator returns `minLen = 2`.

With that, the public pair theorems of Props/C02.lean hold for the concrete estimator and the
concrete predictor family with NO hypothesis on the estimator left (`public_pair_exact`,
`public_verify_same`).
-/
import Preflate.Proofs.EstimateTotalOutcomes
import Preflate.Proofs.Stream
import Preflate.Proofs.ChainsBounded
namespace Preflate.Proofs
open Preflate Preflate.Est

def RefsOK (blocks : List Block) : Prop := ∀ t ∈ EstTotal.flat blocks, RefOK t

theorem streamValid_refsOK {plain : Array Nat} {blocks : List Block} (hv : StreamValid plain blocks) :
    RefsOK blocks := (EstTotal.VToks_flat plain blocks 0 hv.2.1).1.refOK

theorem extractInfo_minLen_range (blocks : List Block) (hok : RefsOK blocks)
    (hex : ∃ len dist irr, Token.ref len dist irr ∈ EstTotal.flat blocks) :
    3 ≤ (extractInfo blocks).minLen ∧ (extractInfo blocks).minLen ≤ 258 := by
  obtain ⟨h1, h2⟩ := extractInfo_minLen blocks
  obtain ⟨l, d, i, hm⟩ := hex
  exact ⟨h2 3 (by decide) fun l d i hm => (hok _ hm).1, Nat.le_trans (h1 l d i hm) (hok _ hm).2.1⟩

/-- the `HashAlgorithm`s `EstimatorRange` allows -/
def GoodHp (hp : Params) : Prop :=
  1 ≤ hp.hashAlg ∧ hp.hashAlg ≤ 7 ∧
  (if hp.hashAlg = 1 then hp.hashShift < 16 ∧ hp.hashMask < 32768 else hp.hashShift = 0 ∧ hp.hashMask = 0)

theorem candidate_new_hp (a s m : Nat) : (Candidate.new a s m).hp = hashParams a s m := rfl

theorem candidatesFor_ok (minLen : Nat) : ∀ c ∈ candidatesFor minLen, GoodHp c.hp := by
  intro c hc
  unfold candidatesFor at hc
  split at hc
  · simp only [List.mem_cons, List.not_mem_nil, or_false] at hc
    rcases hc with rfl | rfl | rfl | rfl | rfl <;> rw [candidate_new_hp] <;>
      simp [GoodHp, hashParams]
  · simp only [List.mem_cons, List.not_mem_nil, or_false] at hc
    rcases hc with rfl | rfl | rfl <;> rw [candidate_new_hp] <;>
      simp [GoodHp, hashParams]

structure CLInv (s : CLState) : Prop where
  cands : ∀ c ∈ s.cands, GoodHp c.hp
  dist3 : s.longestLen3Dist ≤ 32768

theorem checkDump_inv (plain : Array Nat) (pol lim : Nat) (blocks : List Block) (s s' : CLState)
    (h : checkDump plain pol lim s blocks = .ok s') (hok : RefsOK blocks) (hs : CLInv s) : CLInv s' := by
  have := dumpTokens_post plain pol lim CLInv RefOK
    (fun s l hs => (EstTotal.updateCandidateHashes_post GoodHp plain pol lim s l hs.cands).mono
      (fun _ h => h) fun _ h => ⟨h.1, h.2 ▸ hs.dist3⟩)
    (fun s len dist _ ht hs => (EstTotal.checkMatch_post GoodHp plain s len dist hs.cands).mono
      (fun _ h => h) fun _ h => ⟨h.1, Nat.le_trans h.2 (Nat.max_le.mpr ⟨hs.dist3, ht.2.2⟩)⟩)
    _ s hok hs
  rw [← checkDump_flat, h] at this
  exact Post.ok_iff.mp this

theorem minFoldCand_mem (cs : List Candidate) : ∀ best : Candidate,
    cs.foldl (fun (best : Candidate) x => if x.maxChainFound < best.maxChainFound then x else best) best
      ∈ best :: cs := by
  induction cs with
  | nil => intro best; exact List.mem_cons_self
  | cons c cs ih =>
    intro best
    rw [List.foldl_cons]
    split
    · exact List.mem_cons_of_mem _ (ih c)
    · rcases List.mem_cons.mp (ih best) with h | h
      · rw [h]; exact List.mem_cons_self
      · exact List.mem_cons_of_mem _ (List.mem_cons_of_mem _ h)

theorem minByChain_mem (cs : List Candidate) (c : Candidate) (h : minByChain cs = some c) : c ∈ cs := by
  cases cs with
  | nil => cases h
  | cons c0 cs =>
    simp only [minByChain, Option.some.injEq] at h
    rw [← h]
    exact minFoldCand_mem cs c0

/-- the matching-type fields of a level table row as `EstimatorRange` wants them -/
def CfgOK (c : LevelConfig) : Prop :=
  (if c.isLazy then 1 ≤ c.maxLazy ∧ c.maxLazy ≤ 258 ∧ c.goodLength ≤ 258
   else c.maxLazy = 0 ∧ c.goodLength = 0) ∧ c.niceLength ≤ 258

instance (c : LevelConfig) : Decidable (CfgOK c) := by unfold CfgOK; infer_instance

theorem slow_settings_ok : ∀ c ∈ SLOW_SETTINGS, CfgOK c := by decide
theorem zlib_settings_ok : ∀ c ∈ ZLIB_SETTINGS, CfgOK c := by decide

theorem level_cfg_ok (pol found : Nat) :
    CfgOK (((if pol = 0 then SLOW_SETTINGS else ZLIB_SETTINGS).find?
      (fun c => found < c.maxChain)).getD ⟨false, 0, 0, 258, 0⟩) := by
  cases hfind : (if pol = 0 then SLOW_SETTINGS else ZLIB_SETTINGS).find? (fun c => found < c.maxChain) with
  | none => decide
  | some c =>
    have hm := List.mem_of_find?_eq_some hfind
    simp only [Option.getD_some]
    split at hm
    · exact slow_settings_ok c hm
    · exact zlib_settings_ok c hm

theorem recommend_range (wsize pol : Nat) (s : CLState) (cl : CompLevelInfo)
    (h : recommend wsize pol s = .ok cl) (hs : CLInv s) :
    GoodHp (hashParams cl.hashAlg cl.hashShift cl.hashMask) ∧ cl.maxDist3 ≤ 32768 ∧
    CfgOK ⟨cl.isLazy, cl.goodLength, cl.maxLazy, cl.niceLength, cl.maxChain⟩ ∧
    1 ≤ cl.maxChain ∧ cl.maxChain ≤ 4096 := by
  have hc : ∀ c, minByChain s.cands = some c → GoodHp c.hp :=
    fun c hm => hs.cands c (minByChain_mem _ _ hm)
  revert h
  fun_cases recommend wsize pol s <;> intro h <;> cases h
  refine ⟨hc _ ‹_›, Nat.le_trans (u16_le_self _) hs.dist3, level_cfg_ok pol _, Nat.le_add_left 1 _, ?_⟩
  show _ + 1 ≤ 4096
  omega

/-- the statement without the validity hypothesis; it is FALSE (`Counter.estimate_not_in_range`) -/
def estimate_in_range_statement : Prop :=
  ∀ (plain : Array Nat) (blocks : List Block) (p : Params),
    Est.estimate plain blocks = .ok p → EstimatorRange p

/-- position-free form: the only thing needed from the block list is that its references have
    lengths 3..258 and distances up to 32768 -/
theorem estimate_in_range_of_refsOK (plain : Array Nat) (blocks : List Block) (p : Params)
    (hok : RefsOK blocks) (h : Est.estimate plain blocks = .ok p) : EstimatorRange p := by
  obtain ⟨f, hf, hcase⟩ := estimate_cases h
  have hfr := front_in_range blocks f hf
  rcases hcase with ⟨hnd, rfl⟩ | ⟨hnd, s, cl, hdump, hrec, rfl⟩
  · left
    exact ⟨rfl, (hfr.2.2.1 hnd).1, hfr.2.1⟩
  · right
    obtain ⟨hst, hw1, hw2, ⟨m, hm1, hm2, hmt⟩, hp1, hp2, hp3⟩ := hfr.2.2.2 hnd
    have hinv : CLInv s :=
      checkDump_inv plain f.addPolicy f.addLimit blocks _ s hdump hok
        ⟨candidatesFor_ok _, Nat.zero_le _⟩
    obtain ⟨⟨r1, r2, r3⟩, r4, ⟨r5, r6⟩, r7, r8⟩ := recommend_range _ _ s cl hrec hinv
    have hml := extractInfo_minLen_range blocks hok (dictionary_has_reference blocks f hf hnd)
    refine ⟨hst, hfr.2.1, hw1, hw2, r1, r2, r3, ?_, r4, r5, r6, r7, r8, hml.1, hml.2, hp1, ?_⟩
    · show f.maxTokenCount < 32768
      rw [hmt]
      have : 2 ^ (6 + m) ≤ 2 ^ 15 := Nat.pow_le_pow_right (by omega) (by omega)
      have : 0 < 2 ^ (6 + m) := Nat.pow_pos (by omega)
      omega
    · show if f.addPolicy = 1 ∨ f.addPolicy = 2 then f.addLimit ≤ 255 else f.addLimit = 0
      split
      · exact hp2
      · rename_i hne
        exact hp3 (fun h1 => hne (Or.inl h1)) (fun h2 => hne (Or.inr h2))

/-- On a valid expansion of the plaintext (what the parser returns,
    `parse_valid`), whatever the complete estimator returns is inside `EstimatorRange` -/
theorem estimate_in_range (plain : Array Nat) (blocks : List Block) (p : Params)
    (hv : StreamValid plain blocks)
    (h : Est.estimate plain blocks = .ok p) : EstimatorRange p :=
  estimate_in_range_of_refsOK plain blocks p (streamValid_refsOK hv) h

/-- the same statement as `estimate_in_range` -/
theorem estimate_in_range_partial (plain : Array Nat) (blocks : List Block) (p : Params)
    (hv_stream_valid : StreamValid plain blocks)
    (h : Est.estimate plain blocks = .ok p) : EstimatorRange p :=
  estimate_in_range plain blocks p hv_stream_valid h

namespace Counter

def plain : Array Nat := #[0, 0, 0, 0, 0, 0]

/-- a reference of length 2 is not a DEFLATE length; the parser never returns one -/
def blocks : List Block := [.fixed [.lit 0, .ref 2 1 false, .lit 0, .lit 0, .lit 0]]

/-- the estimator accepts this block list and returns a vector outside the range (`minLen = 2`);
    evaluated by the kernel -/
theorem estimate_out_of_range_invalid :
    (match Est.estimate plain blocks with
     | .ok p => !decide (EstimatorRange p)
     | .error _ => false) = true := by decide +kernel

theorem estimate_not_in_range : ¬ estimate_in_range_statement := by
  intro hall
  have h := estimate_out_of_range_invalid
  cases he : Est.estimate plain blocks with
  | error e => rw [he] at h; cases h
  | ok p =>
    rw [he] at h
    have := hall _ _ _ he
    simp only [this, decide_true, Bool.not_true] at h
    cases h

end Counter

variable {H : Type}

theorem estimate_in_range_parsed (d : List UInt8) (p : Parsed)
    (hp : parse d = .ok p) (q : Params) (hq : Est.estimate p.plain p.blocks = .ok q) :
    EstimatorRange q :=
  estimate_in_range p.plain p.blocks q (parse_valid_unbounded (bytesToBits d) p hp).1 hq

/-- The public pair with the modelled estimator and the executable predictor family, no hypothesis
    left on either: whenever `decompress_deflate_stream` returns Ok(r) (either verify setting),
    `recompress_deflate_stream` on r's plaintext and corrections returns exactly D[..r.size] -/
theorem public_pair_exact (verify : Bool) (d : List UInt8) (r : StreamResult)
    (h : decompressStream Est.estimate Chains.pred verify d = .ok r) :
    recompressStream Chains.pred r.plain r.corr = .ok (d.take r.size) ∧ r.size ≤ d.length := by
  exact recompress_decompress_at Est.estimate Chains.pred verify d (estimate_in_range_parsed d) r h

/-- … and the verify=true block changes neither Ok/Err nor the result -/
theorem public_verify_same (d : List UInt8) :
    decompressStream Est.estimate Chains.pred true d = decompressStream Est.estimate Chains.pred false d :=
  verify_same_at Est.estimate Chains.pred d (estimate_in_range_parsed d)

/-- Byte level, end to end, for the modelled estimator and the executable predictor family -/
theorem public_bytes_chain (verify : Bool) (d : List UInt8) (r : StreamResult)
    (h : decompressStream Est.estimate Chains.pred verify d = .ok r) :
    ∃ evs bytes, encodeOps 0 r.corr = .ok evs ∧ encodeBytes r.corr = .ok bytes ∧
      decodeOps 0 (r.corr.map Op.kind) (VP8.readEvents bytes (evs.map (·.ctx))) = .ok (r.corr, 0, []) ∧
      recompressStream Chains.pred r.plain r.corr = .ok (d.take r.size) :=
  decompress_bytes_chain_at Est.estimate Chains.pred chains_pred_bounded verify d
    (estimate_in_range_parsed d) r h

end Preflate.Proofs

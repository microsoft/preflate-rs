/-
VP8 bool coder: `Writer.finish`. The 32 padding decisions shift the exact low end by at least 31 bits
and leave nothing pending in `low`, so the flushed bytes ARE the exact low end (`finish_final`).
-/
import Preflate.Proofs.VP8Writer
namespace Preflate.Proofs
open Preflate Preflate.VP8

theorem prob_0x101 : probability 0x101 = 128 := by decide

/-- one padding step of `finish` -/
def padStep (w : Writer) : Writer := (w.put false 0x101).1

theorem padStep_eq (w : Writer) (h : 1 ≤ w.range) : padStep w = w.putSplit false ((w.range + 1) / 2) := by
  simp only [padStep, Writer.put, prob_0x101]
  congr 1
  rw [Nat.shiftRight_eq_div_pow]; omega

theorem finish_cases (w : Writer) :
    w.finish = (padStep^[32] w).buffer ∨ w.finish = (padStep^[32] w).buffer.push 0 := by
  have hfold : (List.range 32).foldl (fun w _ => (w.put false 0x101).1) w = padStep^[32] w :=
    List.foldl_const padStep w (List.range 32)
  unfold Writer.finish
  simp only [hfold]
  split
  · exact Or.inr rfl
  · exact Or.inl rfl

/-- the split of a padding step shifts at least one bit unless the range is 255, and the range after it
    is even or 128 -/
theorem pad_split (r : Nat) (hlo : 128 ≤ r) (hhi : r ≤ 255) :
    (0 < (r + 1) / 2 ∧ (r + 1) / 2 < r) ∧ (r + 1) / 2 * 2 ^ lz8 ((r + 1) / 2) ≤ 254 ∧
    (r ≤ 254 → 1 ≤ lz8 ((r + 1) / 2)) := by
  obtain ⟨_, l2, l3⟩ := lz8_spec ((r + 1) / 2) (by omega) (by omega)
  refine ⟨by omega, ?_, fun hr => ?_⟩
  · rcases Nat.eq_zero_or_pos (lz8 ((r + 1) / 2)) with h0 | h0
    · rw [h0] at l2 ⊢; omega
    · rw [← Nat.sub_add_cancel h0, Nat.pow_succ, ← Nat.mul_assoc] at l3 ⊢; omega
  · rcases Nat.eq_zero_or_pos (lz8 ((r + 1) / 2)) with h0 | h0
    · rw [h0] at l2; omega
    · exact h0

/-- invariant of the padding loop, relative to the writer `w0` it started from: `D` bits shifted,
    the exact low end only shifted, and no pending carry once a byte has been emitted -/
structure FInv (w0 w : Writer) (D : Nat) : Prop where
  inv : WInv w
  hV : WV w = WV w0 * 2 ^ D
  hT : WT w = WT w0 + D
  hlow : w.low < 2 ^ (Wk w + 8) ∨ w.buffer.size = w0.buffer.size

theorem padStep_spec (w0 w : Writer) (D : Nat) (h : FInv w0 w D) :
    ∃ sh ≤ 7, FInv w0 (padStep w) (D + sh) ∧ (padStep w).range ≤ 254 ∧ (w.range ≤ 254 → 1 ≤ sh) := by
  have hr := h.inv.r_lo
  obtain ⟨s1, s2, s3⟩ := pad_split w.range hr h.inv.r_hi
  have st := putSplit_spec w false _ h.inv s1
  rw [← padStep_eq w (by omega)] at st
  simp only [Bool.false_eq_true, if_false] at st
  refine ⟨_, st.shift_le, ⟨st.inv, ?_, ?_, ?_⟩, st.range_eq ▸ s2, s3⟩
  · rw [st.WV_eq, Nat.add_zero, h.hV, Nat.pow_add, Nat.mul_assoc]
  · rw [st.WT_eq, h.hT, Nat.add_assoc]
  · rcases h.hlow with hl | hl
    · exact Or.inl (st.nocarry (Or.inl hl))
    · by_cases e : (padStep w).buffer.size = w.buffer.size
      · exact Or.inr (e.trans hl)
      · exact Or.inl (st.nocarry (Or.inr e))

/-- `j` counts the padding steps taken before (`D` bits shifted by them). The first step may shift nothing;
    it leaves `range ≤ 254`, and from there every step shifts at least one bit: after `j + n` steps at least
    `j + n - 1` bits have been shifted, at most 7 by each. -/
theorem iter_padStep (w0 : Writer) (n : Nat) : ∀ (w : Writer) (D j : Nat), FInv w0 w D → j ≤ D + 1 →
    (1 ≤ j → w.range ≤ 254) →
    ∃ D', FInv w0 (padStep^[n] w) D' ∧ j + n ≤ D' + 1 ∧ D' ≤ D + 7 * n := by
  induction n with
  | zero => intro w D j h hj _; exact ⟨D, h, hj, Nat.le_refl _⟩
  | succ n ih =>
    intro w D j h hj hr
    obtain ⟨sh, h7, h1, h2, h3⟩ := padStep_spec w0 w D h
    have : j + 1 ≤ D + sh + 1 := by
      rcases Nat.eq_zero_or_pos j with h0 | h0
      · omega
      · have := h3 (hr h0); omega
    obtain ⟨D', g1, g2, g3⟩ := ih (padStep w) (D + sh) (j + 1) h1 this (fun _ => h2)
    exact ⟨D', g1, by omega, by omega⟩

theorem pad32 (w : Writer) (hw : WInv w) : ∃ D, FInv w (padStep^[32] w) D ∧ 31 ≤ D ∧ D ≤ 224 := by
  obtain ⟨D, hF, h1, h2⟩ :=
    iter_padStep w 32 w 0 0 ⟨hw, (Nat.mul_one _).symm, rfl, Or.inr rfl⟩ (Nat.zero_le _) (by omega)
  exact ⟨D, hF, by omega, by omega⟩

theorem Final.push_zero {w : Writer} {out : Array UInt8} (h : Final w out) : Final w (out.push 0) := by
  obtain ⟨δ, hsz, hlo, hhi⟩ := h
  have e : aval (out.push 0) = aval out * 256 := by rw [aval_push, UInt8.toNat_zero, Nat.add_zero]
  rw [Final, Within, e]
  refine ⟨δ + 8, by rw [Array.size_push]; omega, ?_, ?_⟩
  · rw [Nat.pow_add, ← Nat.mul_assoc]
    exact Nat.mul_le_mul_right 256 hlo
  · rw [Nat.pow_add, ← Nat.mul_assoc]
    exact Nat.mul_lt_mul_of_pos_right hhi (Nat.two_pow_pos 8)

theorem finish_final (w : Writer) (hw : WInv w) : Final w w.finish := by
  obtain ⟨D, hF, hD, _⟩ := pad32 w hw
  have hc := finish_cases w
  generalize padStep^[32] w = wf at *
  have hk := hF.inv.k_lt
  have hT := hF.hT
  -- no byte sent would mean 31 bits pending, so `low` has no carry bit; being a multiple of
  -- `2 ^ (Wk wf + 8)` (as `WV wf` is one of `2 ^ D`) it is 0
  have hl : wf.low < 2 ^ (Wk wf + 8) := hF.hlow.resolve_right (by
    intro hsz; have := hw.k_lt; simp only [WT, hsz] at hT; omega)
  obtain ⟨δ, hδ⟩ : ∃ δ, D = δ + (Wk wf + 8) := ⟨D - (Wk wf + 8), by omega⟩
  have hV := hF.hV
  rw [WV, hδ, Nat.pow_add 2 δ, ← Nat.mul_assoc] at hV
  have hlow0 : wf.low = 0 :=
    Nat.eq_zero_of_dvd_of_lt ((Nat.dvd_add_right (Nat.dvd_mul_left _ _)).1 (Dvd.intro_left _ hV.symm)) hl
  rw [hlow0, Nat.add_zero] at hV
  have hB := Nat.eq_of_mul_eq_mul_right (Nat.two_pow_pos _) hV
  have hfin : Final w wf.buffer := by
    have hT' : WT wf = 8 * wf.buffer.size + Wk wf := rfl
    refine ⟨δ, by omega, by rw [Nat.add_zero, hB], ?_⟩
    rw [hB, Nat.add_zero]
    exact Nat.mul_lt_mul_of_pos_right (by have := hw.r_lo; omega) (Nat.two_pow_pos _)
  rcases hc with e | e
  · rw [e]; exact hfin
  · rw [e]; exact hfin.push_zero

end Preflate.Proofs

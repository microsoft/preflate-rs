/-
Basic lemmas for the total `calc_zlib::calc_bit_lengths` model (`Preflate.HuffCalcT`):
the `R` monad, `aget` / `aset`.
-/
import Preflate.Model.HuffCalcT
import Preflate.Proofs.Except
namespace Preflate.HuffCalcT

@[simp] theorem ok_bind {α β : Type} (a : α) (f : α → R β) :
    ((Except.ok a : R α) >>= f) = f a := Proofs.ok_bind a f

@[simp] theorem error_bind {α β : Type} (e : Fail) (f : α → R β) :
    ((Except.error e : R α) >>= f) = Except.error e := Proofs.throw_bind e f

@[simp] theorem pure_eq_ok {α : Type} (a : α) : (pure a : R α) = Except.ok a := rfl

@[simp] theorem panic_eq {α : Type} (s : String) : (panic s : R α) = Except.error (.panic s) := rfl

theorem aget_ok {α : Type} {a : Array α} {i : Nat} (site : String) (h : i < a.size) :
    aget a i site = .ok a[i] := by
  simp [aget, h]

theorem aget_of_getElem? {α : Type} {a : Array α} {i : Nat} {v : α} (site : String)
    (h : a[i]? = some v) : aget a i site = .ok v := by
  simp [aget, h]

theorem aget_eq_ok {α : Type} {a : Array α} {i : Nat} {site : String} {v : α}
    (h : aget a i site = .ok v) : a[i]? = some v := by
  unfold aget at h
  split at h
  · rename_i w hw; cases h; exact hw
  · cases h

theorem aset_ok {α : Type} {a : Array α} {i : Nat} (v : α) (site : String) (h : i < a.size) :
    aset a i v site = .ok (a.setIfInBounds i v) := by
  simp [aset, h]

theorem aset_eq_ok {α : Type} {a b : Array α} {i : Nat} {v : α} {site : String}
    (h : aset a i v site = .ok b) : i < a.size ∧ b = a.setIfInBounds i v := by
  unfold aset at h
  split at h
  · rename_i hi; cases h; exact ⟨hi, rfl⟩
  · cases h

end Preflate.HuffCalcT

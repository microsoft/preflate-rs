/- Varints, big- and little-endian words and `takeExact`: what the readers return on what the writers wrote. -/
import Preflate.Model.Wrappers
import Preflate.Proofs.Except
namespace Preflate.Proofs
open Preflate

theorem c_bind_eq_ok {α β} (x : R α) (f : α → R β) (b : β) :
    (x >>= f) = .ok b ↔ ∃ a, x = .ok a ∧ f a = .ok b := by
  cases x <;> simp [bind, Except.bind]

theorem writeVarint_length_pos (fuel v : Nat) : 0 < (writeVarint (fuel + 1) v).length := by
  rw [writeVarint]
  by_cases h : v / 128 ≠ 0
  · rw [if_pos h]; exact Nat.succ_pos _
  · rw [if_neg h]; exact Nat.succ_pos _

theorem readVarint_cons (fuel shift acc b : Nat) (rest : Bytes) (hs : shift < 32) :
    readVarint (fuel + 1) shift acc (b :: rest) =
      if b / 128 % 2 = 0 then .ok (acc ||| (b % 128) <<< shift % 4294967296, rest)
      else readVarint fuel (shift + 7) (acc ||| (b % 128) <<< shift % 4294967296) rest := by
  rw [readVarint, if_neg (Nat.not_le.mpr hs)]

theorem or_shift {acc x s : Nat} (h : acc < 2 ^ s) (hx : x * 2 ^ s < 2 ^ 32) :
    acc ||| (x <<< s) % 4294967296 = acc + x * 2 ^ s := by
  rw [Nat.shiftLeft_eq, Nat.mod_eq_of_lt hx, ← Nat.shiftLeft_eq, Nat.or_comm,
    ← Nat.shiftLeft_add_eq_or_of_lt h, Nat.shiftLeft_eq, Nat.add_comm]

/-- Round trip of a u32 `w`, seen in the middle: the reader holds the low `shift` bits of `w`, the writer
    the rest. One byte moves seven bits from the one to the other. -/
theorem readVarint_write (fuel : Nat) : ∀ (fuel' shift w : Nat) (rest : Bytes),
    (writeVarint fuel (w / 2 ^ shift)).length ≤ fuel' → 0 < fuel → w < 2 ^ 32 → w < 2 ^ (shift + 7 * fuel) →
    shift < 32 →
    readVarint fuel' shift (w % 2 ^ shift) (writeVarint fuel (w / 2 ^ shift) ++ rest) = .ok (w, rest) := by
  induction fuel with
  | zero => intro _ _ _ _ _ h; omega
  | succ fuel ih =>
    intro fuel' shift w rest hle _ hw32 hw hs
    have hpow : 2 ^ (shift + 7) = 2 ^ shift * 128 := Nat.pow_add ..
    have hdiv : w / 2 ^ shift / 128 = w / 2 ^ (shift + 7) := by rw [Nat.div_div_eq_div_mul, hpow]
    have hmod : w % 2 ^ shift + w / 2 ^ shift % 128 * 2 ^ shift = w % 2 ^ (shift + 7) := by
      rw [hpow, Nat.mod_mul, Nat.mul_comm]
    have hx : w / 2 ^ shift % 128 * 2 ^ shift < 2 ^ 32 :=
      Nat.lt_of_le_of_lt (Nat.le_trans (Nat.mul_le_mul_right _ (Nat.mod_le ..)) (Nat.div_mul_le_self ..)) hw32
    have hacc : w % 2 ^ shift < 2 ^ shift := Nat.mod_lt _ (Nat.two_pow_pos _)
    obtain ⟨f', rfl⟩ : ∃ f', fuel' = f' + 1 :=
      ⟨fuel' - 1, by have := writeVarint_length_pos fuel (w / 2 ^ shift); omega⟩
    rw [writeVarint] at hle ⊢
    by_cases h128 : w / 2 ^ shift / 128 ≠ 0
    · rw [if_pos h128] at hle ⊢
      rw [List.cons_append, readVarint_cons _ _ _ _ _ hs, if_neg (by omega), Nat.add_mod_right, Nat.mod_mod,
        or_shift hacc hx, hmod, hdiv]
      rw [hdiv] at h128 hle
      have hge : 2 ^ (shift + 7) ≤ w := (Nat.div_ne_zero_iff.mp h128).2
      exact ih f' (shift + 7) w rest (Nat.le_of_succ_le_succ hle)
        (Nat.pos_of_ne_zero fun h0 => by subst h0; exact Nat.lt_irrefl _ (Nat.lt_of_le_of_lt hge hw))
        hw32 (by rwa [show shift + 7 * (fuel + 1) = shift + 7 + 7 * fuel by omega] at hw)
        ((Nat.pow_lt_pow_iff_right (by omega)).mp (Nat.lt_of_le_of_lt hge hw32))
    · rw [hdiv] at h128
      rw [if_neg (hdiv ▸ h128), List.cons_append, List.nil_append, readVarint_cons _ _ _ _ _ hs, if_pos (by omega),
        Nat.mod_mod, or_shift hacc hx, hmod,
        Nat.mod_eq_of_lt (Nat.lt_of_div_eq_zero (Nat.two_pow_pos _) (Decidable.not_not.mp h128))]

theorem varint_lt (v : Nat) (h : v < 2 ^ 32) (rest : Bytes) :
    getVarint (varint v ++ rest) = .ok (v, rest) := by
  rw [getVarint, varint, Nat.mod_eq_of_lt h]
  have := readVarint_write 5 ((writeVarint 5 v ++ rest).length + 1) 0 v rest
    (by rw [Nat.pow_zero, Nat.div_one, List.length_append]; omega) (by omega) h (by omega) (by omega)
  rwa [Nat.pow_zero, Nat.div_one, Nat.mod_one] at this

theorem varint_length_pos (v : Nat) : 0 < (varint v).length := writeVarint_length_pos 4 _

theorem be32_length (n : Nat) : (be32 n).length = 4 := rfl

theorem ofBe32_be32 (n : Nat) (h : n < 2 ^ 32) : ofBe32 (be32 n) = n := by
  simp only [be32, ofBe32]
  have := Nat.div_add_mod n 256
  have := Nat.div_add_mod (n / 256) 256
  have := Nat.div_add_mod (n / 65536) 256
  omega

theorem ofLe16_le16 (v : Nat) (h : v < 65536) : ofLe16 (le16 v) = v := by
  simp only [le16, ofLe16]; omega

theorem four_bytes {l : Bytes} (hl : l.length = 4) (hb : ∀ x ∈ l, x < 256) :
    ∃ a b c d, l = [a, b, c, d] ∧ a < 256 ∧ b < 256 ∧ c < 256 ∧ d < 256 := by
  match l, hl with
  | [a, b, c, d], _ =>
    exact ⟨a, b, c, d, rfl, hb a (by simp), hb b (by simp), hb c (by simp), hb d (by simp)⟩

theorem be32_ofBe32 (l : Bytes) (hl : l.length = 4) (hb : ∀ x ∈ l, x < 256) :
    be32 (ofBe32 l) = l := by
  obtain ⟨a, b, c, d, rfl, ha, hb, hc, hd⟩ := four_bytes hl hb
  simp only [ofBe32, be32, List.cons.injEq, and_true]
  omega

theorem ofBe32_lt (l : Bytes) (hb : ∀ x ∈ l, x < 256) : ofBe32 l < 2 ^ 32 := by
  by_cases hl : l.length = 4
  · obtain ⟨a, b, c, d, rfl, ha, hb, hc, hd⟩ := four_bytes hl hb
    show ((a * 256 + b) * 256 + c) * 256 + d < 2 ^ 32
    omega
  · unfold ofBe32
    split
    · exact absurd rfl hl
    · omega

theorem takeExact_append {n : Nat} (x rest : Bytes) (h : x.length = n) :
    takeExact n (x ++ rest) = .ok (x, rest) := by
  subst h; simp [takeExact]

theorem takeExact_ok {n : Nat} {bs d rest : Bytes} (h : takeExact n bs = .ok (d, rest)) :
    n ≤ bs.length ∧ d = bs.take n ∧ rest = bs.drop n := by
  unfold takeExact at h
  by_cases hn : n ≤ bs.length
  · rw [if_pos hn] at h; cases h; exact ⟨hn, rfl, rfl⟩
  · rw [if_neg hn] at h; cases h

end Preflate.Proofs

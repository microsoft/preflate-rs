/-
Size of the correction data: the executable predictor `Chains.pred` is tight (`PredTight`,
Proofs/CorrBoundPredict.lean) for every parameter vector — `match_token_offset` never answers a length
above MAX_MATCH = 258 (`matchToken_len_le`, Proofs/ChainsBounded.lean), and the code lengths are bytes
(`Vec<u8>`, modelled by `% 256` in Model/Chains.lean).
-/
import Preflate.Proofs.ChainsBounded
import Preflate.Proofs.CorrBoundPredict
namespace Preflate.Proofs
open Preflate Preflate.Chains

theorem pendTight_some (l d : Nat) (h : l ≤ 258) : PendTight (some (l, d)) := by
  intro l' d' h'
  cases h'
  exact h

theorem predictTok_tight (p : Params) (plain : Array Nat) (s : PState Chain) (hp : PendTight s.pending) :
    PTokTight (predictTok p plain s).1 ∧ PendTight (predictTok p plain s).2 := by
  have h := predictTok_ans p plain s
  generalize predictTok p plain s = r at h ⊢
  cases h with
  | edge => exact ⟨trivial, hp⟩
  | lit => exact ⟨trivial, pendTight_none⟩
  | ref len dist hm =>
    refine ⟨?_, pendTight_none⟩
    rcases hm with hm | ⟨_, hm⟩
    · exact hp len dist hm
    · exact matchToken_len_le hm
  | lazy len depth l2 d2 hm => exact ⟨trivial, pendTight_some _ _ (matchToken_len_le hm)⟩

theorem chains_pred_tight (p : Params) : PredTight (Chains.pred p) where
  predict plain s hp := predictTok_tight p plain s hp
  repredict _ _ _ _ _ h := matchToken_len_le (repredictTok_ok h).1
  bitlen freq maxBits x hx := by
    simp only [Chains.pred] at hx
    split at hx
    · simp only [List.mem_map] at hx
      obtain ⟨y, _, rfl⟩ := hx
      exact Nat.mod_lt _ (by decide)
    · simp at hx

end Preflate.Proofs

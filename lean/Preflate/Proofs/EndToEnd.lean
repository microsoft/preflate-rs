import Preflate.Proofs.Deflate
import Preflate.Proofs.PlainLimit
import Preflate.Proofs.Predict
namespace Preflate.Proofs
open Preflate

variable {H : Type}

/-- end to end, for ANY predictor: if analysing an accepted stream yields
    corrections, then reconstruction from those corrections followed by the block writer returns
    exactly the bytes the parser consumed -/
theorem recompress_analyze (P : Pred H) (d : List UInt8) (p : Parsed)
    (hp : parse d = .ok p)
    (ops : List Op) (he : encStream P p.plain p.blocks p.eofPadding = .ok ops) :
    ∃ blocks pad, decStream P p.plain ops = .ok (blocks, pad, []) ∧
      writeStream blocks pad = .ok (d.take (p.consumed d)) := by
  obtain ⟨hv, hpad⟩ := parse_valid_unbounded (bytesToBits d) p hp
  have hdec := decStream_encStream P p.plain p.blocks p.eofPadding hv hpad ops he []
  rw [List.append_nil] at hdec
  exact ⟨p.blocks, p.eofPadding, hdec, (write_parse d p hp).1⟩

end Preflate.Proofs

/-
Length-limiting tail of `calc_zlib::calc_bit_lengths` (`countLens`, `redistribute`, `reassign`):
when the overflow is at most twice the potential `Σ bl[i] * (2 ^ (m - i) - 1)` it never panics, and
the reassigned lengths are in `[1, maxBits]`.
-/
import Preflate.Proofs.HuffCalcTTree
namespace Preflate.HuffCalcT

def cnt (bl : Array Nat) (j : Nat) : Nat := bl[j]?.getD 0

theorem cnt_set (bl : Array Nat) (i j v : Nat) (h : i < bl.size) :
    cnt (bl.setIfInBounds i v) j = if j = i then v else cnt bl j := by
  unfold cnt
  rw [Array.getElem?_setIfInBounds]
  by_cases hji : j = i
  · subst hji; simp [h]
  · simp [hji, Ne.symm hji]

theorem aget_cnt (bl : Array Nat) (i : Nat) (s : String) (h : i < bl.size) :
    aget bl i s = .ok (cnt bl i) := by
  rw [aget_ok s h]; simp [cnt, h]

/-- `Σ_{1 ≤ i ≤ n} bl[i] * g i`: a sum over the counters of the real lengths (`bl[0]` counts the
unused symbols). With `g = 1` it is the number of symbols counted; the potential of the
redistribution loop is `g i = 2 ^ (m - i) - 1`. -/
def dot (g : Nat → Nat) (bl : Array Nat) : Nat → Nat
  | 0 => 0
  | n + 1 => dot g bl n + cnt bl (n + 1) * g (n + 1)

theorem dot_congr {g : Nat → Nat} {bl bl' : Array Nat} {n : Nat}
    (h : ∀ j, 1 ≤ j → j ≤ n → cnt bl' j = cnt bl j) : dot g bl' n = dot g bl n := by
  induction n with
  | zero => rfl
  | succ n ih => rw [dot, dot, ih (fun j h1 hj => h j h1 (by omega)), h (n + 1) (by omega) (by omega)]

theorem dot_set (g : Nat → Nat) (bl : Array Nat) (i v n : Nat) (h : i < bl.size) (h1 : 1 ≤ i)
    (hn : i ≤ n) :
    dot g (bl.setIfInBounds i v) n + cnt bl i * g i = dot g bl n + v * g i := by
  induction n with
  | zero => omega
  | succ n ih =>
    rw [dot, dot, cnt_set _ _ _ _ h]
    by_cases hi : n + 1 = i
    · rw [if_pos hi, dot_congr (bl := bl) (fun j _ hj => by rw [cnt_set _ _ _ _ h, if_neg (by omega)]), hi]
      omega
    · have := ih (by omega)
      rw [if_neg hi]
      omega

/-- `bl[i] += k` -/
theorem dot_add (g : Nat → Nat) (bl : Array Nat) (i n k : Nat) (h : i < bl.size) (h1 : 1 ≤ i)
    (hn : i ≤ n) : dot g (bl.setIfInBounds i (cnt bl i + k)) n = dot g bl n + k * g i := by
  have := dot_set g bl i (cnt bl i + k) n h h1 hn
  rw [Nat.add_mul] at this
  omega

/-- `bl[i] -= k` -/
theorem dot_sub (g : Nat → Nat) (bl : Array Nat) (i n k : Nat) (h : i < bl.size) (h1 : 1 ≤ i)
    (hn : i ≤ n) (hk : k ≤ cnt bl i) :
    dot g (bl.setIfInBounds i (cnt bl i - k)) n + k * g i = dot g bl n := by
  have := dot_set g bl i (cnt bl i - k) n h h1 hn
  have := Nat.mul_le_mul_right (g i) hk
  rw [Nat.sub_mul] at *
  omega

theorem dot_pos {g : Nat → Nat} {bl : Array Nat} {n : Nat} (h : 0 < dot g bl n) :
    ∃ i, 1 ≤ i ∧ i ≤ n ∧ cnt bl i ≠ 0 ∧ g i ≠ 0 := by
  induction n with
  | zero => simp [dot] at h
  | succ n ih =>
    by_cases hn : cnt bl (n + 1) * g (n + 1) = 0
    · obtain ⟨i, h1, hi, hc⟩ := ih (by rw [dot, hn] at h; exact h)
      exact ⟨i, h1, by omega, hc⟩
    · exact ⟨n + 1, by omega, Nat.le_refl _, fun h0 => hn (by simp [h0]), fun h0 => hn (by simp [h0])⟩

theorem dot_replicate (g : Nat → Nat) (k n : Nat) : dot g (Array.replicate k 0) n = 0 := by
  induction n with
  | zero => rfl
  | succ n ih =>
    have : cnt (Array.replicate k 0) (n + 1) = 0 := by
      unfold cnt
      by_cases h : n + 1 < k <;> simp [h]
    rw [dot, ih, this, Nat.zero_mul]

theorem countLens_cons_le {m l : Nat} (rest : List Nat) {bl : Array Nat} (ov : Nat) (hl : l ≤ m)
    (h : l < bl.size) :
    countLens m (l :: rest) bl ov = countLens m rest (bl.setIfInBounds l (cnt bl l + 1)) ov := by
  simp [countLens, Nat.not_lt.mpr hl, aget_cnt bl l _ h, aset_ok _ _ h]

theorem countLens_cons_gt {m l : Nat} (rest : List Nat) {bl : Array Nat} (ov : Nat) (hl : m < l)
    (h : m < bl.size) :
    countLens m (l :: rest) bl ov =
      countLens m rest (bl.setIfInBounds m (cnt bl m + 1)) (ov + 1) := by
  simp [countLens, hl, aget_cnt bl m _ h, aset_ok _ _ h]

/-- `countLens` is a histogram of the lengths cut off at `m`; `overflow` counts those cut off -/
theorem countLens_spec (m : Nat) (hm : 1 ≤ m) :
    ∀ (L : List Nat) (bl : Array Nat) (ov : Nat), bl.size = m + 1 →
    ∃ bl' ov', countLens m L bl ov = .ok (bl', ov') ∧ bl'.size = m + 1 ∧
      (∀ g : Nat → Nat, (∀ l, m ≤ l → g l = g m) →
        dot g bl' m = dot g bl m + (L.map fun l => if l = 0 then 0 else g l).sum) ∧
      ov' = ov + (L.map fun l => if m < l then 1 else 0).sum ∧
      ov' + cnt bl m ≤ cnt bl' m + ov
  | [], bl, ov, hs => ⟨bl, ov, rfl, hs, by simp, by simp, by omega⟩
  | l :: rest, bl, ov, hs => by
    simp only [List.map_cons, List.sum_cons]
    rcases Nat.lt_or_ge m l with hl | hl
    · have hlt : m < bl.size := by omega
      obtain ⟨bl', ov', e1, e2, e3, e4, e5⟩ := countLens_spec m hm rest
        (bl.setIfInBounds m (cnt bl m + 1)) (ov + 1) (by simpa using hs)
      rw [countLens_cons_gt rest ov hl hlt, if_pos hl]
      rw [cnt_set _ _ _ _ hlt, if_pos rfl] at e5
      refine ⟨bl', ov', e1, e2, fun g hg => ?_, by omega, by omega⟩
      rw [e3 g hg, dot_add g bl m m 1 hlt hm (Nat.le_refl m), hg l (Nat.le_of_lt hl),
        if_neg (Nat.ne_of_gt (Nat.zero_lt_of_lt hl))]
      omega
    · have hlt : l < bl.size := by omega
      obtain ⟨bl', ov', e1, e2, e3, e4, e5⟩ := countLens_spec m hm rest
        (bl.setIfInBounds l (cnt bl l + 1)) ov (by simpa using hs)
      rw [countLens_cons_le rest ov hl hlt, if_neg (Nat.not_lt.mpr hl)]
      rw [cnt_set _ _ _ _ hlt] at e5
      refine ⟨bl', ov', e1, e2, fun g hg => ?_, by omega, ?_⟩
      · rw [e3 g hg]
        by_cases h0 : l = 0
        · rw [dot_congr (bl := bl) fun j h1 _ => by rw [cnt_set _ _ _ _ hlt, if_neg (by omega)],
            if_pos h0, Nat.zero_add]
        · rw [dot_add g bl l m 1 hlt (Nat.pos_of_ne_zero h0) hl, if_neg h0]
          omega
      · split at e5
        · subst l; omega
        · omega

theorem findBits_spec (bl : Array Nat) : ∀ (b : Nat), b < bl.size → (∃ i, i ≤ b ∧ cnt bl i ≠ 0) →
    ∃ b', findBits bl b = .ok b' ∧ b' ≤ b ∧ cnt bl b' ≠ 0 ∧ ∀ j, b' < j → j ≤ b → cnt bl j = 0
  | 0, hb, ⟨i, hi, hc⟩ => by
    have : i = 0 := by omega
    subst this
    refine ⟨0, ?_, Nat.le_refl _, hc, fun j h1 h2 => by omega⟩
    simp [findBits, aget_cnt bl 0 _ hb, hc]
  | b + 1, hb, ⟨i, hi, hc⟩ => by
    by_cases h0 : cnt bl (b + 1) = 0
    · have hi' : i ≤ b := by
        by_cases h : i = b + 1
        · subst h; exact absurd h0 hc
        · omega
      obtain ⟨b', h1, h2, h3, h4⟩ := findBits_spec bl b (by omega) ⟨i, hi', hc⟩
      refine ⟨b', ?_, by omega, h3, fun j hj1 hj2 => ?_⟩
      · simp [findBits, aget_cnt bl (b + 1) _ hb, h0, h1]
      · by_cases h : j = b + 1
        · subst h; exact h0
        · exact h4 j hj1 (by omega)
    · refine ⟨b + 1, ?_, Nat.le_refl _, h0, fun j h1 h2 => by omega⟩
      simp [findBits, aget_cnt bl (b + 1) _ hb, h0]

/-- One round moves a leaf from the longest length `b < m` in use down to `b + 1` and brings one of
the overflowing symbols up beside it: whatever is summed over the counters loses `g b + g m` and
gains `2 * g (b + 1)`. A positive potential says that such a `b ≥ 1` exists. -/
theorem redistStep_spec (m : Nat) (bl : Array Nat) (hs : bl.size = m + 1)
    (hphi : 1 ≤ dot (fun i => 2 ^ (m - i) - 1) bl m) (hm : 1 ≤ cnt bl m) :
    ∃ b bl', redistStep m bl = .ok bl' ∧ bl'.size = m + 1 ∧ b + 1 ≤ m ∧
      (∀ g : Nat → Nat, dot g bl' m + g b + g m = dot g bl m + 2 * g (b + 1)) ∧
      cnt bl m ≤ cnt bl' m + 1 := by
  obtain ⟨i, hi1, hi, hci, hgi⟩ := dot_pos hphi
  have him : i < m := by
    refine Nat.lt_of_le_of_ne hi (fun h => hgi ?_)
    rw [h, Nat.sub_self]
  have him' : i ≤ m - 1 := Nat.le_sub_one_of_lt him
  obtain ⟨b, hfb, hbm, hcb, hz⟩ := findBits_spec bl (m - 1) (by omega) ⟨i, him', hci⟩
  have hb1 : 1 ≤ b := Nat.le_trans hi1 (Nat.le_of_not_lt fun h => hci (hz i h him'))
  have hbm' : b + 1 ≤ m := by omega
  have hb_lt : b < bl.size := hs ▸ Nat.lt_succ_of_le (Nat.le_of_succ_le hbm')
  obtain ⟨bl1, hbl1⟩ : ∃ x, x = bl.setIfInBounds b (cnt bl b - 1) := ⟨_, rfl⟩
  have hs1 : bl1.size = m + 1 := by simp [hbl1, hs]
  have hb1_lt : b + 1 < bl1.size := hs1 ▸ Nat.lt_succ_of_le hbm'
  obtain ⟨bl2, hbl2⟩ : ∃ x, x = bl1.setIfInBounds (b + 1) (cnt bl1 (b + 1) + 2) := ⟨_, rfl⟩
  have hs2 : bl2.size = m + 1 := by simp [hbl2, hs1]
  have hm_lt : m < bl2.size := hs2 ▸ Nat.lt_succ_self m
  obtain ⟨bl3, hbl3⟩ : ∃ x, x = bl2.setIfInBounds m (cnt bl2 m - 1) := ⟨_, rfl⟩
  have hc2m : cnt bl m ≤ cnt bl2 m := by
    have : cnt bl1 m = cnt bl m := by rw [hbl1, cnt_set _ _ _ _ hb_lt, if_neg (by omega)]
    rw [hbl2, cnt_set _ _ _ _ hb1_lt, ← this]
    split
    · subst m; omega
    · omega
  refine ⟨b, bl3, ?_, by simp [hbl3, hs2], hbm', fun g => ?_, ?_⟩
  · have hm0 : (m == 0) = false := by simp; omega
    have hne : (cnt bl2 m == 0) = false := by simp; omega
    unfold redistStep
    simp only [hm0, Bool.false_eq_true, if_false, hfb, ok_bind,
      aget_cnt bl b _ hb_lt, aset_ok _ _ hb_lt, ← hbl1]
    simp only [aget_cnt bl1 (b + 1) _ hb1_lt, aset_ok _ _ hb1_lt, ok_bind, ← hbl2]
    simp only [aget_cnt bl2 m _ hm_lt, hne, Bool.false_eq_true, if_false, ok_bind,
      aset_ok _ _ hm_lt, ← hbl3]
  · have p1 := dot_sub g bl b m 1 hb_lt hb1 (Nat.le_of_succ_le hbm') (Nat.pos_of_ne_zero hcb)
    have p2 := dot_add g bl1 (b + 1) m 2 hb1_lt (Nat.succ_pos b) hbm'
    have p3 := dot_sub g bl2 m m 1 hm_lt (Nat.le_trans (Nat.succ_pos b) hbm') (Nat.le_refl m)
      (Nat.le_trans hm hc2m)
    rw [← hbl1] at p1
    rw [← hbl2] at p2
    rw [← hbl3] at p3
    omega
  · rw [hbl3, cnt_set _ _ _ _ hm_lt, if_pos rfl]
    omega

theorem redistribute_spec (m : Nat) : ∀ (ov : Nat) (bl : Array Nat), bl.size = m + 1 →
    ov ≤ 2 * dot (fun i => 2 ^ (m - i) - 1) bl m → ov ≤ cnt bl m →
    ∃ bl', redistribute m ov bl = .ok bl' ∧ bl'.size = m + 1 ∧
      dot (fun _ => 1) bl' m = dot (fun _ => 1) bl m
  | 0, bl, hs, _, _ => ⟨bl, rfl, hs, rfl⟩
  | 1, bl, hs, h1, h2 => by
    obtain ⟨b, bl', e1, e2, _, e4, _⟩ := redistStep_spec m bl hs (by omega) (by omega)
    exact ⟨bl', by simp only [redistribute, e1], e2, by have := e4 (fun _ => 1); omega⟩
  | ov + 2, bl, hs, h1, h2 => by
    obtain ⟨b, bl1, e1, e2, hb, e4, e5⟩ := redistStep_spec m bl hs (by omega) (by omega)
    have hphi := e4 (fun i => 2 ^ (m - i) - 1)
    rw [Nat.sub_self, show m - b = m - (b + 1) + 1 by omega] at hphi
    have := Nat.one_le_two_pow (n := m - (b + 1))
    obtain ⟨bl', f1, f2, f3⟩ := redistribute_spec m ov bl1 e2 (by omega) (by omega)
    exact ⟨bl', by simp only [redistribute, e1, ok_bind, f1], f2,
      by have := e4 (fun _ => 1); omega⟩

/-- As long as `bl` counts at least as many symbols as there are leaves left, and nothing above
`bits`, every leaf gets a length in `[1, m]`; nothing else is written. -/
theorem reassign_spec (m : Nat) (hm : m < 256) :
    ∀ (nodes : List Node) (bits : Nat) (bl lens : Array Nat),
    bits ≤ m → bl.size = m + 1 → (∀ j, bits < j → j ≤ m → cnt bl j = 0) →
    (nodes.filterMap (·.leaf)).length ≤ dot (fun _ => 1) bl m →
    (∀ s ∈ nodes.filterMap (·.leaf), s < lens.size) →
    ∃ lens', reassign nodes bits bl lens = .ok lens' ∧ lens'.size = lens.size ∧
      ∀ i v, lens'[i]? = some v →
        1 ≤ v ∧ v ≤ m ∨ i ∉ nodes.filterMap (·.leaf) ∧ lens[i]? = some v
  | [], _, _, lens, _, _, _, _, _ => ⟨lens, rfl, rfl, fun i v h => .inr ⟨by simp, h⟩⟩
  | x :: rest, bits, bl, lens, hb, hs, hz, hc, hl => by
    cases hx : x.leaf with
    | none =>
      simp only [List.filterMap_cons, hx] at hc hl ⊢
      rw [reassign, hx]
      exact reassign_spec m hm rest bits bl lens hb hs hz hc hl
    | some sym =>
      simp only [List.filterMap_cons, hx] at hc hl ⊢
      obtain ⟨i, hi1, hi, hci, _⟩ := dot_pos (Nat.lt_of_lt_of_le (Nat.succ_pos _) hc)
      have hib : i ≤ bits := Nat.le_of_not_lt fun h => hci (hz i h hi)
      obtain ⟨b, hfb, hbb, hcb, hzb⟩ := findBits_spec bl bits (by omega) ⟨i, hib, hci⟩
      have hb1 : 1 ≤ b := Nat.le_trans hi1 (Nat.le_of_not_lt fun h => hci (hzb i h hib))
      have hsym : sym < lens.size := hl sym List.mem_cons_self
      have hb_lt : b < bl.size := by omega
      have hdot := dot_sub (fun _ => 1) bl b m 1 hb_lt hb1 (by omega) (by omega)
      obtain ⟨lens', r1, r2, r3⟩ := reassign_spec m hm rest b
        (bl.setIfInBounds b (cnt bl b - 1)) (lens.setIfInBounds sym b)
        (by omega) (by simpa using hs)
        (fun j hj1 hj2 => by
          rw [cnt_set _ _ _ _ hb_lt, if_neg (by omega)]
          by_cases hjb : j ≤ bits
          · exact hzb j hj1 hjb
          · exact hz j (by omega) hj2)
        (by simp only [List.length_cons] at hc; omega)
        (fun s hs' => by simpa using hl s (List.mem_cons_of_mem _ hs'))
      refine ⟨lens', ?_, by simpa using r2, fun j v hv => ?_⟩
      · simp only [reassign, hx, hfb, ok_bind, Nat.mod_eq_of_lt (show b < 256 by omega),
          aset_ok _ _ hsym, aget_cnt bl b _ hb_lt, aset_ok _ _ hb_lt, r1]
      · rcases r3 j v hv with h | ⟨hjr, hj⟩
        · exact .inl h
        · rw [Array.getElem?_setIfInBounds] at hj
          by_cases hjs : sym = j
          · rw [if_pos hjs, if_pos hsym] at hj
            cases hj
            exact .inl ⟨hb1, Nat.le_trans hbb hb⟩
          · rw [if_neg hjs] at hj
            exact .inr ⟨fun h => (List.mem_cons.mp h).elim (fun e => hjs e.symm) hjr, hj⟩

/-- The three loops on the array that `count_recursive` writes for a tree: with at most `2 ^ m` leaves
the overflow is within twice the potential (`Tree.overflow_le`), so they run through, and every
length ends up at most `m`. -/
theorem tail_spec (m : Nat) (hm1 : 1 ≤ m) (hm2 : m < 256) (tl tr : Tree) (n : Nat)
    (nodes : List Node) (hfit : (Tree.node tl tr).leaves.length ≤ 2 ^ m)
    (hnd : (Tree.node tl tr).leaves.Nodup) (hlt : ∀ s ∈ (Tree.node tl tr).leaves, s < n)
    (hflat : (nodes.filterMap (·.leaf)).Perm (Tree.node tl tr).leaves) {lens : Array Nat}
    (hlens : (Tree.node tl tr).write 0 (Array.replicate n 0) = lens) :
    ∃ bl ov, countLens m lens.toList (Array.replicate (m + 1) 0) 0 = .ok (bl, ov) ∧
      (ov = 0 → ∀ l ∈ lens.toList, l ≤ m) ∧
      (0 < ov → ∃ bl' lens', redistribute m ov bl = .ok bl' ∧
          reassign nodes m bl' lens = .ok lens' ∧ lens'.size = lens.size ∧
          ∀ v ∈ lens'.toList, v ≤ m) := by
  -- sums over the written array are sums over the leaf depths
  have hsum : ∀ g : Nat → Nat, g 0 = 0 →
      (lens.toList.map g).sum = (Tree.node tl tr).dsum g 0 := fun g h0 =>
    hlens ▸ sum_write_replicate g h0 _ 0 n hnd hlt
  obtain ⟨bl, ov, hcl, hsz, hdot, hov, hmge⟩ :=
    countLens_spec m hm1 lens.toList (Array.replicate (m + 1) 0) 0 (by simp)
  have hphi := hdot (fun i => 2 ^ (m - i) - 1) (fun l hl => by
    rw [Nat.sub_self, Nat.sub_eq_zero_of_le hl])
  have hs1 := hdot (fun _ => 1) (fun _ _ => rfl)
  rw [dot_replicate, Nat.zero_add, hsum _ rfl] at hphi hs1
  rw [Nat.zero_add] at hov
  refine ⟨bl, ov, hcl, fun h0 l hl => ?_, fun _ => ?_⟩
  · have := List.sum_eq_zero_iff_forall_eq_nat.mp (hov ▸ h0) _ (List.mem_map_of_mem hl)
    exact Nat.le_of_not_lt fun h => by simp [h] at this
  · obtain ⟨bl', hr, hsz', hs1'⟩ := redistribute_spec m ov bl hsz
      (by rw [hphi, hov, hsum _ rfl]; exact Tree.overflow_le m hm1 tl tr hfit) (by omega)
    obtain ⟨lens', hre, hsz'', hent⟩ := reassign_spec m hm2 nodes m bl' lens (Nat.le_refl _) hsz'
      (fun j h1 h2 => by omega)
      (by rw [hs1', hs1, Tree.dsum_pos, hflat.length_eq]; exact Nat.le_refl _)
      (fun s hs => by rw [← hlens]; simpa using hlt s (hflat.mem_iff.mp hs))
    refine ⟨bl', lens', hr, hre, hsz'', fun v hv => ?_⟩
    obtain ⟨i, hi⟩ := List.mem_iff_getElem?.mp hv
    rcases hent i v (Array.getElem?_toList ▸ hi) with h | ⟨hmem, h1⟩
    · exact h.2
    · -- not a leaf: still the `0` of the fresh array
      rw [← hlens, Tree.write_not_mem _ _ _ _ fun hl => hmem (hflat.mem_iff.mpr hl)] at h1
      obtain ⟨_, h3⟩ := Array.getElem?_eq_some_iff.mp h1
      simp at h3
      omega

end Preflate.HuffCalcT

/-
Abstract trees for the node array built by `combine`; the specification of `countRec`
(`count_recursive`): it writes, for every leaf of the tree, its depth into `lens`; and what the
shape of a tree says about the depths written: few of them exceed a given limit (`Tree.overflow_le`).
-/
import Preflate.Proofs.HuffCalcTBase
namespace Preflate.HuffCalcT

theorem sum_map_set (f : Nat → Nat) (L : List Nat) (i v : Nat) (hi : i < L.length) :
    ((L.set i v).map f).sum + f L[i] = (L.map f).sum + f v := by
  induction L generalizing i with
  | nil => simp at hi
  | cons a L ih =>
    cases i with
    | zero => simp; omega
    | succ i =>
      have := ih i (by simpa using hi)
      simp only [List.set_cons_succ, List.map_cons, List.sum_cons, List.getElem_cons_succ]
      omega

inductive Tree where
  | leaf (sym : Nat)
  | node (l r : Tree)

namespace Tree

def height : Tree → Nat
  | leaf _ => 0
  | node l r => max l.height r.height + 1

def leaves : Tree → List Nat
  | leaf s => [s]
  | node l r => l.leaves ++ r.leaves

/-- what `count_recursive` does to `node_bit_len` -/
def write : Tree → Nat → Array Nat → Array Nat
  | leaf s, d, lens => lens.setIfInBounds s d
  | node l r, d, lens => r.write (d + 1) (l.write (d + 1) lens)

/-- sum of `f depth` over the leaves -/
def dsum (f : Nat → Nat) : Tree → Nat → Nat
  | leaf _, d => f d
  | node l r, d => l.dsum f (d + 1) + r.dsum f (d + 1)

@[simp] theorem size_write (t : Tree) (d : Nat) (lens : Array Nat) :
    (t.write d lens).size = lens.size := by
  induction t generalizing d lens with
  | leaf s => simp [write]
  | node l r ihl ihr => simp [write, ihl, ihr]

theorem write_not_mem (t : Tree) (d : Nat) (lens : Array Nat) (s : Nat) (hs : s ∉ t.leaves) :
    (t.write d lens)[s]? = lens[s]? := by
  induction t generalizing d lens with
  | leaf s' =>
    simp [leaves] at hs
    simp [write, Array.getElem?_setIfInBounds]
    intro h; omega
  | node l r ihl ihr =>
    simp [leaves] at hs
    simp [write, ihl _ _ hs.1, ihr _ _ hs.2]

theorem leaves_pos (t : Tree) : 0 < t.leaves.length := by
  induction t with
  | leaf s => simp [leaves]
  | node l r ihl _ => simp only [leaves, List.length_append]; omega

theorem dsum_const (f : Nat → Nat) (c : Nat) (t : Tree) (d : Nat) (h : ∀ δ, d ≤ δ → f δ = c) :
    t.dsum f d = c * t.leaves.length := by
  induction t generalizing d with
  | leaf s => simp [dsum, leaves, h d (Nat.le_refl d)]
  | node l r ihl ihr =>
    have h' : ∀ δ, d + 1 ≤ δ → f δ = c := fun δ hδ => h δ (by omega)
    rw [dsum, ihl _ h', ihr _ h', leaves, List.length_append, Nat.mul_add]

/-- Kraft's inequality, cut off at depth `m`: a subtree hanging at depth `d ≤ m` has `2 ^ (m - d)`
places of depth `m` to fill; a leaf at depth `l ≤ m` fills `2 ^ (m - l)` of them, and a subtree
hanging at depth `m` with `k ≥ 2` leaves (all of them too deep) fills one, which is at most `k / 2`. -/
theorem overflow_kraft (m : Nat) (t : Tree) (d : Nat) (h1 : 1 ≤ d) (hd : d ≤ m) :
    2 * 2 ^ (m - d) + t.dsum (fun l => if m < l then 1 else 0) d
      ≤ 2 * t.dsum (fun l => if l = 0 then 0 else 2 ^ (m - l) - 1) d + 2 * t.leaves.length := by
  induction t generalizing d with
  | leaf s =>
    have := Nat.one_le_two_pow (n := m - d)
    simp only [dsum, leaves, List.length_singleton, if_neg (Nat.not_lt.mpr hd),
      if_neg (Nat.ne_of_gt h1)]
    omega
  | node l r ihl ihr =>
    simp only [dsum, leaves, List.length_append]
    by_cases h : d < m
    · have := ihl (d + 1) (by omega) h
      have := ihr (d + 1) (by omega) h
      rw [show m - d = m - (d + 1) + 1 by omega]
      omega
    · have e : d = m := by omega
      subst e
      have hov : ∀ δ, d + 1 ≤ δ → (if d < δ then 1 else 0) = 1 := fun δ hδ => if_pos hδ
      have hA : ∀ δ, d + 1 ≤ δ → (if δ = 0 then 0 else 2 ^ (d - δ) - 1) = 0 := fun δ hδ => by
        rw [if_neg (by omega), Nat.sub_eq_zero_of_le (show d ≤ δ by omega)]
      rw [dsum_const _ 1 l _ hov, dsum_const _ 1 r _ hov, dsum_const _ 0 l _ hA,
        dsum_const _ 0 r _ hA, Nat.sub_self]
      have := l.leaves_pos
      have := r.leaves_pos
      omega

/-- the `overflow` that `countLens` will count (leaves deeper than `m`) is at most twice the potential
`Σ (2 ^ (m - depth) - 1)` that `redistribute` lives on, as soon as there are no more than `2 ^ m` leaves -/
theorem overflow_le (m : Nat) (hm : 1 ≤ m) (l r : Tree) (hn : (node l r).leaves.length ≤ 2 ^ m) :
    (node l r).dsum (fun l => if m < l then 1 else 0) 0
      ≤ 2 * (node l r).dsum (fun l => if l = 0 then 0 else 2 ^ (m - l) - 1) 0 := by
  have := overflow_kraft m l 1 (Nat.le_refl 1) hm
  have := overflow_kraft m r 1 (Nat.le_refl 1) hm
  simp only [dsum, leaves, List.length_append, Nat.zero_add] at hn ⊢
  rw [show m = m - 1 + 1 by omega] at hn
  omega

theorem dsum_pos (l r : Tree) :
    (node l r).dsum (fun l => if l = 0 then 0 else 1) 0 = (node l r).leaves.length := by
  have h : ∀ δ, 0 + 1 ≤ δ → (if δ = 0 then 0 else 1) = 1 := fun δ hδ => if_neg (by omega)
  rw [dsum, dsum_const _ 1 l _ h, dsum_const _ 1 r _ h, leaves, List.length_append]
  omega

end Tree

/-- `NT nodes x t`: the node `x` (an element of the heap or of `nodes`) is the root of the abstract
tree `t`, all of whose inner nodes have their children stored in `nodes`. -/
inductive NT (nodes : Array Node) : Node → Tree → Prop
  | leaf {x : Node} {s : Nat} : x.leaf = some s → x.depth = 0 → NT nodes x (.leaf s)
  | node {x xl xr : Node} {tl tr : Tree} : x.leaf = none →
      nodes[x.left]? = some xl → nodes[x.right]? = some xr →
      NT nodes xl tl → NT nodes xr tr → x.depth = max xl.depth xr.depth + 1 →
      NT nodes x (.node tl tr)

theorem NT.push {nodes : Array Node} {x : Node} {t : Tree} (h : NT nodes x t) (y : Node) :
    NT (nodes.push y) x t := by
  have keep : ∀ {i z}, nodes[i]? = some z → (nodes.push y)[i]? = some z := fun hz => by
    rw [Array.getElem?_push, if_neg (by have := (Array.getElem?_eq_some_iff.mp hz).1; omega)]
    exact hz
  induction h with
  | leaf h1 h2 => exact .leaf h1 h2
  | node h1 h2 h3 _ _ h6 ihl ihr => exact .node h1 (keep h2) (keep h3) ihl ihr h6

theorem NT.height {nodes : Array Node} {x : Node} {t : Tree} (h : NT nodes x t) :
    t.height = x.depth := by
  induction h with
  | leaf h1 h2 => simp [Tree.height, h2]
  | node h1 h2 h3 _ _ h6 ihl ihr => simp [Tree.height, ihl, ihr, h6]

theorem NT.inner {nodes : Array Node} {x : Node} {t : Tree} (h : NT nodes x t) (hx : x.leaf = none) :
    ∃ tl tr, t = .node tl tr := by
  cases h with
  | leaf h1 => rw [hx] at h1; cases h1
  | node => exact ⟨_, _, rfl⟩

theorem NT.unique {nodes : Array Node} {x : Node} {t t' : Tree} (h : NT nodes x t)
    (h' : NT nodes x t') : t = t' := by
  induction h generalizing t' with
  | leaf h1 h2 =>
    cases h' with
    | leaf g1 g2 => rw [h1] at g1; cases g1; rfl
    | node g1 => rw [h1] at g1; cases g1
  | node h1 h2 h3 _ _ h6 ihl ihr =>
    cases h' with
    | leaf g1 g2 => rw [h1] at g1; cases g1
    | node g1 g2 g3 g4 g5 g6 =>
      rw [h2] at g2; cases g2
      rw [h3] at g3; cases g3
      rw [ihl g4, ihr g5]

theorem NT.leaves_flat {nodes : Array Node} {x : Node} {t : Tree} (h : NT nodes x t) :
    ∀ s ∈ t.leaves, x.leaf = some s ∨ s ∈ nodes.toList.filterMap (·.leaf) := by
  have memOf : ∀ {i y}, nodes[i]? = some y → y ∈ nodes.toList := fun hy =>
    List.mem_of_getElem? (Array.getElem?_toList ▸ hy)
  induction h with
  | leaf h1 h2 =>
    intro s hs
    simp [Tree.leaves] at hs
    exact .inl (hs ▸ h1)
  | node h1 h2 h3 _ _ h6 ihl ihr =>
    intro s hs
    rcases List.mem_append.mp hs with hs | hs
    · exact .inr ((ihl s hs).elim (fun h => List.mem_filterMap.mpr ⟨_, memOf h2, h⟩) id)
    · exact .inr ((ihr s hs).elim (fun h => List.mem_filterMap.mpr ⟨_, memOf h3, h⟩) id)

/-- `count_recursive` on a well-formed tree: no panic as long as the depth stays within `u8`,
no fuel problem as long as the budget exceeds the height. -/
theorem countRec_spec {nodes : Array Node} {x : Node} {t : Tree} (h : NT nodes x t) :
    ∀ (fuel idx d : Nat) (lens : Array Nat), nodes[idx]? = some x → d + t.height ≤ 255 →
      t.height < fuel → (∀ s ∈ t.leaves, s < lens.size) →
      countRec nodes fuel idx lens d = .ok (t.write d lens) := by
  induction h with
  | @leaf x s h1 h2 =>
    intro fuel idx d lens hidx hd hf hl
    obtain ⟨fuel, rfl⟩ : ∃ f, fuel = f + 1 := ⟨fuel - 1, by omega⟩
    have hs : s < lens.size := hl s (by simp [Tree.leaves])
    simp [countRec, aget_of_getElem? _ hidx, h1, Tree.write, aset_ok _ _ hs]
  | @node x xl xr tl tr h1 h2 h3 _ _ h6 ihl ihr =>
    intro fuel idx d lens hidx hd hf hl
    obtain ⟨fuel, rfl⟩ : ∃ f, fuel = f + 1 := ⟨fuel - 1, by omega⟩
    simp only [Tree.height] at hd hf
    simp only [Tree.leaves, List.mem_append] at hl
    have e1 := ihl fuel x.left (d + 1) lens h2 (by omega) (by omega) (fun s hs => hl s (Or.inl hs))
    have e2 := ihr fuel x.right (d + 1) (tl.write (d + 1) lens) h3 (by omega) (by omega)
      (fun s hs => by simpa using hl s (Or.inr hs))
    have hd' : ¬ (d + 1 > 255) := by omega
    simp [countRec, aget_of_getElem? _ hidx, h1, hd', e1, e2, Tree.write]

/-- `count_recursive` turns a sum over the leaf depths into a sum over the array -/
theorem sum_write (f : Nat → Nat) (hf : f 0 = 0) (t : Tree) (d : Nat) (lens : Array Nat)
    (hnd : t.leaves.Nodup) (hl : ∀ s ∈ t.leaves, lens[s]? = some 0) :
    ((t.write d lens).toList.map f).sum = (lens.toList.map f).sum + t.dsum f d := by
  induction t generalizing d lens with
  | leaf s =>
    obtain ⟨hs, hz⟩ := Array.getElem?_eq_some_iff.mp (hl s (by simp [Tree.leaves]))
    have := sum_map_set f lens.toList s d (by simpa using hs)
    rw [Array.getElem_toList, hz, hf] at this
    simpa [Tree.write, Tree.dsum] using this
  | node l r ihl ihr =>
    simp only [Tree.leaves, List.nodup_append, List.mem_append] at hnd hl
    rw [Tree.write, Tree.dsum, ihr _ _ hnd.2.1, ihl _ _ hnd.1 (fun s hs => hl s (.inl hs)),
      Nat.add_assoc]
    intro s hs
    rw [Tree.write_not_mem _ _ _ _ (fun hsl => hnd.2.2 s hsl s hs rfl)]
    exact hl s (.inr hs)

theorem sum_write_replicate (f : Nat → Nat) (hf : f 0 = 0) (t : Tree) (d n : Nat)
    (hnd : t.leaves.Nodup) (hlt : ∀ s ∈ t.leaves, s < n) :
    ((t.write d (Array.replicate n 0)).toList.map f).sum = t.dsum f d := by
  rw [sum_write f hf t d _ hnd (fun s hs => by simp [hlt s hs])]
  simp [hf]

end Preflate.HuffCalcT

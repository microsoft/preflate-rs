/-
Completeness direction of C07, dynamic headers: `readHeader (writeHeader h ++ rest) = (h, rest)` for
every header that is `HeaderValid` and `HeaderCoded`.
-/
import Preflate.Proofs.ParseWriteBase
import Preflate.Proofs.Deflate
import Preflate.Proofs.ExpandsHeader
namespace Preflate.Proofs
open Preflate Preflate.Gen

/-- reading back the code-length code lengths gives `cl` from any accumulator that already agrees
    with `cl` at the positions the remaining iterations do not write -/
theorem writeCodeLengths_read {cl : List Nat} (hlen : cl.length = 19) (hs : ∀ x ∈ cl, x < 8) :
    ∀ (n i : Nat), i + n ≤ 19 → ∃ w, writeCodeLengths cl n i = .ok w ∧ w.length = 3 * n ∧
      ∀ acc rest, acc.length = 19 →
        (∀ p, (∀ j, i ≤ j → j < i + n → TREE_CODE_ORDER_TABLE.getD j 0 ≠ p) → acc[p]? = cl[p]?) →
        readCodeLengths n i acc (w ++ rest) = .ok (cl, rest) := by
  intro n
  induction n with
  | zero =>
    intro i _
    refine ⟨[], rfl, rfl, fun acc rest _ hag => ?_⟩
    rw [List.ext_getElem? fun p => hag p fun j h1 h2 => absurd h2 (by omega)]
    rfl
  | succ n ih =>
    intro i hi
    obtain ⟨w, hw, hl, hr⟩ := ih (i + 1) (by omega)
    have ho := order_lt i (by omega)
    have hv : cl.getD (TREE_CODE_ORDER_TABLE.getD i 0) 0 < 2 ^ 3 :=
      hs _ (List.mem_of_getElem? (getElem?_getD (by omega)))
    refine ⟨_, writeCodeLengths_succ (by omega) (getElem?_getD (by omega)) hv hw, ?_, ?_⟩
    · simp only [List.length_append, length_bitsOfNat, hl]; omega
    · intro acc rest hacc hag
      simp only [readCodeLengths, List.append_assoc, readBits_app hv, ok_bind]
      refine hr _ rest (by simpa using hacc) fun p hp => ?_
      by_cases hpi : TREE_CODE_ORDER_TABLE.getD i 0 = p
      · subst hpi
        rw [List.getElem?_set_self (by omega), getElem?_getD (by omega)]
      · rw [List.getElem?_set_ne hpi]
        refine hag p fun j h1 h2 => ?_
        by_cases hj : j = i
        · exact hj ▸ hpi
        · exact hp j (by omega) (by omega)

theorem replicate_agrees {h : Header} (hv : HeaderValid h) (p : Nat)
    (hp : ∀ j, 0 ≤ j → j < 0 + h.numCodeLengths → TREE_CODE_ORDER_TABLE.getD j 0 ≠ p) :
    (List.replicate 19 0)[p]? = h.codeLengths[p]? := by
  by_cases h19 : p < 19
  · obtain ⟨j, hj, rfl⟩ := order_surj p h19
    have hn : h.numCodeLengths ≤ j := Nat.le_of_not_lt fun hlt => hp j (Nat.zero_le _) (by omega) rfl
    rw [getElem?_getD (l := h.codeLengths) (by rw [hv.cl_len]; exact h19), hv.cl_unused j hn hj,
      List.getElem?_replicate, if_pos h19]
  · rw [List.getElem?_eq_none (by simp; omega), List.getElem?_eq_none (by rw [hv.cl_len]; omega)]

theorem rep_decomp {k d : Nat}
    (h : (k = 16 ∧ 3 ≤ d ∧ d ≤ 6) ∨ (k = 17 ∧ 3 ≤ d ∧ d ≤ 10) ∨ (k = 18 ∧ 11 ≤ d ∧ d ≤ 138)) :
    15 < k ∧ k ≤ 18 ∧ ∃ x, d = x + (treeCodeAdjust k).1 ∧ x < 2 ^ (treeCodeAdjust k).2 := by
  rcases h with ⟨rfl, _, _⟩ | ⟨rfl, _, _⟩ | ⟨rfl, _, _⟩
  · exact ⟨by decide, by decide, d - 3, show d = d - 3 + 3 by omega, show d - 3 < 4 by omega⟩
  · exact ⟨by decide, by decide, d - 3, show d = d - 3 + 3 by omega, show d - 3 < 8 by omega⟩
  · exact ⟨by decide, by decide, d - 11, show d = d - 11 + 11 by omega, show d - 11 < 128 by omega⟩

theorem writeRleItems_read {cl : List Nat} (hv : validLengths cl = true) :
    ∀ (items : List RleItem) (read total : Nat),
    (∀ it ∈ items,
      (it.kind = 0 ∧ it.data ≤ 15) ∨ (it.kind = 16 ∧ 3 ≤ it.data ∧ it.data ≤ 6) ∨
      (it.kind = 17 ∧ 3 ≤ it.data ∧ it.data ≤ 10) ∨ (it.kind = 18 ∧ 11 ≤ it.data ∧ it.data ≤ 138)) →
    (∀ it ∈ items, cl.getD (itemSym it) 0 ≠ 0) →
    read + (items.map itemSpan).sum = total →
    ∃ w, writeRleItems cl items = .ok w ∧ w.length = (items.map (itemBits cl)).sum ∧
      ∀ rest fuel, w.length < fuel →
        readRleItems (codeTable cl) total fuel read (w ++ rest) = .ok (items, rest) := by
  have hcl := length_codeBits cl
  intro items
  induction items with
  | nil =>
    intro read total _ _ hsum
    refine ⟨[], rfl, rfl, fun rest fuel hf => ?_⟩
    obtain ⟨f, rfl⟩ := Nat.exists_eq_add_one_of_ne_zero (Nat.ne_zero_of_lt hf)
    cases hsum
    exact readRleItems_done
  | cons it items ih =>
    intro read total hk hc hsum
    obtain ⟨k, d⟩ := it
    obtain ⟨hk0, hks⟩ := List.forall_mem_cons.mp hk
    obtain ⟨hc0, hcs⟩ := List.forall_mem_cons.mp hc
    rw [List.map_cons, List.sum_cons] at hsum
    obtain ⟨w, hw, hl, hr⟩ := ih (read + itemSpan ⟨k, d⟩) total hks hcs (by omega)
    rcases hk0 with ⟨rfl, hd⟩ | hk0
    · replace hc0 : cl.getD d 0 ≠ 0 := hc0
      refine ⟨_, writeRleItems_code (lt_length_of_getD_ne hc0) hw, ?_, fun rest fuel hf => ?_⟩
      · simp only [List.length_append, hcl, hl, List.map_cons, List.sum_cons, itemBits, itemSym, if_true,
          Nat.add_zero]
      · rw [List.length_append, hcl] at hf
        obtain ⟨f, rfl⟩ := Nat.exists_eq_add_one_of_ne_zero (Nat.ne_zero_of_lt hf)
        rw [List.append_assoc]
        exact readRleItems_code (show read < total by change read + (1 + _) = total at hsum; omega)
          (decodeSym_code hv hc0 _) hd (hr rest f (by omega))
    · change k = 16 ∧ 3 ≤ d ∧ d ≤ 6 ∨ k = 17 ∧ 3 ≤ d ∧ d ≤ 10 ∨ k = 18 ∧ 11 ≤ d ∧ d ≤ 138 at hk0
      obtain ⟨hk15, hk18, x, rfl, hx⟩ := rep_decomp hk0
      have hkne : ¬ k = 0 := by omega
      simp only [itemSym, if_neg hkne] at hc0
      have hspan : itemSpan ⟨k, x + (treeCodeAdjust k).1⟩ = x + (treeCodeAdjust k).1 := if_neg hkne
      rw [hspan] at hr hsum
      refine ⟨_, writeRleItems_rep hkne (lt_length_of_getD_ne hc0) hx hw, ?_, fun rest fuel hf => ?_⟩
      · simp only [List.length_append, hcl, length_bitsOfNat, hl, List.map_cons, List.sum_cons, itemBits,
          itemSym, if_neg hkne]
      · simp only [List.length_append, hcl, length_bitsOfNat] at hf
        obtain ⟨f, rfl⟩ := Nat.exists_eq_add_one_of_ne_zero (Nat.ne_zero_of_lt hf)
        simp only [List.append_assoc]
        exact readRleItems_rep (by omega) (decodeSym_code hv hc0 _) hk15 hk18
          (readBits_app hx _) (hr rest f (by omega))

theorem writeHeader_read {h : Header} (hv : HeaderValid h) (hc : HeaderCoded h) :
    ∃ w, writeHeader h = .ok w ∧ w.length = headerBits h ∧
      ∀ rest, readHeader (w ++ rest) = .ok (h, rest) := by
  obtain ⟨numLit, numDist, numCl, cl, items⟩ := h
  obtain ⟨a, rfl⟩ : ∃ a, numLit = a + 257 := ⟨_, (Nat.sub_add_cancel hv.lit_lo).symm⟩
  obtain ⟨b, rfl⟩ : ∃ b, numDist = b + 1 := ⟨_, (Nat.sub_add_cancel hv.dist_lo).symm⟩
  obtain ⟨c, rfl⟩ : ∃ c, numCl = c + 4 := ⟨_, (Nat.sub_add_cancel hv.cl_lo).symm⟩
  have ha : a < 2 ^ 5 := by have : a + 257 ≤ 288 := hv.lit_hi; omega
  have hb : b < 2 ^ 5 := by have : b + 1 ≤ 32 := hv.dist_hi; omega
  have hcc : c < 2 ^ 4 := by have : c + 4 ≤ 19 := hv.cl_hi; omega
  obtain ⟨w4, hw4, hl4, hr4⟩ := writeCodeLengths_read hv.cl_len hv.cl_small (c + 4) 0 (by omega)
  obtain ⟨w6, hw6, hl6, hr6⟩ := writeRleItems_read hc.cl_valid items 0 (a + 257 + (b + 1))
    hv.items_kind hc.items_coded (by rw [Nat.zero_add]; exact hv.items_sum)
  refine ⟨_, writeHeader_eq ha hb hcc hw4 hw6, ?_, fun rest => ?_⟩
  · simp only [List.length_append, length_bitsOfNat, hl4, hl6, headerBits]
  · simp only [List.append_assoc]
    exact readHeader_eq_ok.mpr ⟨a, _, b, _, c, _, cl, _, items, readBits_app ha _, readBits_app hb _,
      readBits_app hcc _, hr4 _ _ (List.length_replicate ..) (replicate_agrees hv), hc.cl_valid,
      hr6 rest _ (by rw [List.length_append]; omega), rfl⟩

end Preflate.Proofs

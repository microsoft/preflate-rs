/-
The array produced by `buildLevels`: a concatenation of level blocks, each block being the leaves
of that level followed by the links to the pairs of the next deeper level.
-/
import Preflate.Proofs.HuffTreeLayout
namespace Preflate.Proofs
open Preflate

def leavesUpTo (l : List Nat) (b n : Nat) : List Int :=
  (List.range n).filterMap fun j => if l.getD j 0 = b then some (-1 - (j : Int)) else none

theorem levelLeaves_eq (l : List Nat) (b : Nat) : levelLeaves l b = leavesUpTo l b l.length := rfl

theorem leavesUpTo_succ (l : List Nat) (b n : Nat) :
    leavesUpTo l b (n + 1) = leavesUpTo l b n ++ (if l.getD n 0 = b then [-1 - (n : Int)] else []) := by
  unfold leavesUpTo
  rw [List.range_succ, List.filterMap_append]
  congr 1
  by_cases h : l.getD n 0 = b <;>
    simp only [List.filterMap_cons, List.filterMap_nil, h, if_true, if_false]

theorem countEq_take_succ (l : List Nat) (b n : Nat) (hn : n < l.length) :
    countEq (l.take (n + 1)) b = countEq (l.take n) b + (if l.getD n 0 = b then 1 else 0) := by
  have hg : l.getD n 0 = l[n] := by simp [List.getD, hn]
  rw [List.take_succ_eq_append_getElem hn, hg]
  unfold countEq
  rw [List.filter_append, List.length_append]
  congr 1
  by_cases h : l[n] = b <;> simp [h]

theorem leavesUpTo_spec (l : List Nat) (b n : Nat) (hn : n ≤ l.length) :
    (leavesUpTo l b n).length = countEq (l.take n) b ∧
    ∀ p v, (leavesUpTo l b n)[p]? = some v ↔
      ∃ s, s < n ∧ l.getD s 0 = b ∧ countEq (l.take s) b = p ∧ v = -1 - (s : Int) := by
  induction n with
  | zero => simp [leavesUpTo, countEq]
  | succ n ih =>
    obtain ⟨hlen, ih⟩ := ih (by omega)
    rw [leavesUpTo_succ, countEq_take_succ l b n (by omega), List.length_append, hlen]
    refine ⟨by split <;> rfl, fun p v => ?_⟩
    rw [List.getElem?_append, hlen]
    constructor
    · intro h
      split at h
      · obtain ⟨s, hs, r⟩ := (ih p v).mp h
        exact ⟨s, by omega, r⟩
      · split at h
        · rw [List.getElem?_singleton] at h
          split at h
          · cases h
            exact ⟨n, by omega, ‹_›, by omega, rfl⟩
          · cases h
        · cases h
    · rintro ⟨s, hs, hb, hr, rfl⟩
      by_cases hsn : s = n
      · subst hsn
        rw [if_neg (by omega), if_pos hb, hr, Nat.sub_self]
        rfl
      · have := (ih p _).mpr ⟨s, by omega, hb, hr, rfl⟩
        rw [if_pos (hlen ▸ (List.getElem?_eq_some_iff.mp this).1)]
        exact this

theorem levelLeaves_length (l : List Nat) (b : Nat) : (levelLeaves l b).length = countEq l b := by
  rw [levelLeaves_eq, (leavesUpTo_spec l b l.length (Nat.le_refl _)).1, List.take_length]

theorem levelLeaves_getElem? (l : List Nat) (b p : Nat) (v : Int) :
    (levelLeaves l b)[p]? = some v ↔
      ∃ s, s < l.length ∧ l.getD s 0 = b ∧ countEq (l.take s) b = p ∧ v = -1 - (s : Int) :=
  (leavesUpTo_spec l b l.length (Nat.le_refl _)).2 p v

theorem parentLinks_eq (m fuel j : Nat) (h : m < fuel) :
    parentLinks fuel j (j + 2 * m) = (List.range m).map (fun k => ((j + 2 * k : Nat) : Int)) := by
  induction m generalizing fuel j with
  | zero =>
    obtain ⟨f, rfl⟩ : ∃ f, fuel = f + 1 := ⟨fuel - 1, by omega⟩
    simp [parentLinks]
  | succ m ih =>
    obtain ⟨f, rfl⟩ : ∃ f, fuel = f + 1 := ⟨fuel - 1, by omega⟩
    have hlt : j < j + 2 * (m + 1) := by omega
    simp only [parentLinks, hlt, if_true]
    rw [show j + 2 * (m + 1) = (j + 2) + 2 * m by omega, ih f (j + 2) (by omega),
      List.range_succ_eq_map, List.map_cons, List.map_map]
    congr 1
    apply List.map_congr_left
    intro k _
    simp only [Function.comp]
    congr 1; omega

/-- the content of the array at position `p` of level `b` -/
def entry (l : List Nat) (b p : Nat) : Int :=
  if p < cntP l b then (levelLeaves l b).getD p 0
  else ((startOf l (b + 1) + 2 * (p - cntP l b) : Nat) : Int)

/-- the `k`-th inner node of level `b` points at the `k`-th pair of level `b + 1` -/
theorem entry_inner (l : List Nat) (b k : Nat) :
    entry l b (cntP l b + k) = ((startOf l (b + 1) + 2 * k : Nat) : Int) := by
  rw [entry, if_neg (by omega), Nat.add_sub_cancel_left]

/-- the leaves of level `b` are its symbols of length `b`, each at its rank among them -/
theorem entry_leaf (l : List Nat) {b p : Nat} (hb : 1 ≤ b) (hp : p < cntP l b) :
    ∃ s, s < l.length ∧ l.getD s 0 = b ∧ countEq (l.take s) b = p ∧ entry l b p = -1 - (s : Int) := by
  have hp' : p < (levelLeaves l b).length := by rwa [levelLeaves_length, ← cntP_pos l hb]
  obtain ⟨s, h1, h2, h3, h4⟩ := (levelLeaves_getElem? l b p _).mp (List.getElem?_eq_getElem hp')
  refine ⟨s, h1, h2, h3, ?_⟩
  rw [entry, if_pos hp, List.getD_eq_getElem?_getD, List.getElem?_eq_getElem hp']
  exact h4

theorem entry_rank (l : List Nat) {s b p : Nat} (hs : s < l.length) (hl : l.getD s 0 = b)
    (hr : countEq (l.take s) b = p) (hb : 1 ≤ b) : p < cntP l b ∧ entry l b p = -1 - (s : Int) := by
  have h := (levelLeaves_getElem? l b p _).mpr ⟨s, hs, hl, hr, rfl⟩
  have hp : p < cntP l b := by
    rw [cntP_pos l hb, ← levelLeaves_length]
    exact (List.getElem?_eq_some_iff.mp h).1
  refine ⟨hp, ?_⟩
  rw [entry, if_pos hp, List.getD_eq_getElem?_getD, h]
  rfl

/-- what `buildLevels` appends for level `b`: the leaves of that level, then the links to the pairs
of level `b + 1` -/
def block (l : List Nat) (b : Nat) : List Int :=
  levelLeaves l b ++ parentLinks (startOf l b + 1) (startOf l (b + 1)) (startOf l b)

theorem block_spec {l : List Nat} (hc : Complete l) (b : Nat) (h1 : 1 ≤ b) (h15 : b ≤ 15) :
    (block l b).length = width l b ∧
      ∀ p, p < width l b → (block l b)[p]? = some (entry l b p) := by
  have hle := hc.le b h15
  have hlen : (levelLeaves l b).length = cntP l b := by rw [levelLeaves_length, cntP_pos l h1]
  have hpl : parentLinks (startOf l b + 1) (startOf l (b + 1)) (startOf l b)
      = (List.range (width l b - cntP l b)).map
          (fun k => ((startOf l (b + 1) + 2 * k : Nat) : Int)) := by
    rw [startOf_succ_of_complete hc h15, width_succ, Nat.mul_comm]
    exact parentLinks_eq _ _ _ (by omega)
  rw [block, hpl]
  refine ⟨by simp [hlen]; omega, fun p hp => ?_⟩
  rw [entry]
  by_cases hlt : p < cntP l b
  · rw [List.getElem?_append_left (by omega), if_pos hlt, List.getD_eq_getElem?_getD,
      List.getElem?_eq_getElem (by omega)]
    rfl
  · rw [List.getElem?_append_right (by omega), hlen, if_neg hlt, List.getElem?_map,
      List.getElem?_range (by omega)]
    rfl

/-- `buildLevels` from level `b` down, on a list that ends where the block of level `b` starts: it
appends the blocks of the levels `b, …, 1`, which fills the array. -/
theorem buildLevels_spec {l : List Nat} (hc : Complete l) : ∀ (b : Nat), b ≤ 15 →
    ∀ (nodes : List Int), nodes.length = startOf l b →
    ∃ rest, buildLevels l b nodes (startOf l (b + 1)) = nodes ++ rest ∧
      (nodes ++ rest).length = startOf l 0 ∧
      ∀ b' p, 1 ≤ b' → b' ≤ b → p < width l b' →
        (nodes ++ rest)[startOf l b' + p]? = some (entry l b' p)
  | 0, _, nodes, hn => ⟨[], by simp [buildLevels], by simpa using hn, fun b' p h1 h0 => by omega⟩
  | b + 1, h15, nodes, hn => by
    obtain ⟨hlen, hent⟩ := block_spec hc (b + 1) (by omega) h15
    obtain ⟨rest, e, hl, he⟩ := buildLevels_spec hc b (by omega) (nodes ++ block l (b + 1))
      (by rw [List.length_append, hn, hlen, startOf_succ l (b := b) (by omega)])
    rw [List.append_assoc] at e hl he
    refine ⟨block l (b + 1) ++ rest, ?_, hl, fun b' p h1 hb' hp => ?_⟩
    · rw [buildLevels, hn, List.append_assoc]
      exact e
    · by_cases h : b' ≤ b
      · exact he b' p h1 h hp
      · have : b' = b + 1 := by omega
        subst this
        rw [← hn, List.getElem?_append_right (by omega), Nat.add_sub_cancel_left,
          List.getElem?_append_left (by omega)]
        exact hent p hp

theorem foldl_max_le_iff (l : List Nat) (a c : Nat) :
    l.foldl max a ≤ c ↔ a ≤ c ∧ ∀ x ∈ l, x ≤ c := by
  induction l generalizing a with
  | nil => simp
  | cons x xs ih => simp only [List.foldl_cons, ih, Nat.max_le, List.mem_cons, forall_eq_or_imp, and_assoc]

theorem levelLeaves_nil (l : List Nat) (b : Nat) (h : ∀ x ∈ l, x < b) : levelLeaves l b = [] := by
  unfold levelLeaves
  rw [List.filterMap_eq_nil_iff]
  intro j hj
  have hj := List.mem_range.mp hj
  have : l.getD j 0 ≠ b := by
    have hg : l.getD j 0 = l[j] := by simp [List.getD, hj]
    have := h l[j] (List.getElem_mem hj)
    omega
  simp only [this, if_false]

/-- the levels above the longest code are empty -/
theorem buildLevels_top (l : List Nat) (m k : Nat) (h : ∀ x ∈ l, x ≤ m) :
    buildLevels l (m + k) [] 0 = buildLevels l m [] 0 := by
  induction k with
  | zero => rfl
  | succ k ih =>
    rw [← Nat.add_assoc]
    simp only [buildLevels]
    rw [levelLeaves_nil l (m + k + 1) (fun x hx => by have := h x hx; omega)]
    simp only [List.append_nil, List.length_nil, parentLinks, Nat.lt_irrefl, if_false]
    exact ih

/-- what `buildTree` guarantees about the array -/
structure TreeOK (l : List Nat) (t : Array Int) : Prop where
  size : t.size = startOf l 0
  ent : ∀ b p, 1 ≤ b → b ≤ 15 → p < width l b → t.getD (startOf l b + p) 0 = entry l b p

theorem treeOK_buildLevels {l : List Nat} (hc : Complete l) :
    TreeOK l (buildLevels l 15 [] 0).toArray := by
  obtain ⟨rest, e, hl, he⟩ := buildLevels_spec hc 15 (Nat.le_refl _) [] rfl
  rw [startOf_16] at e
  rw [e]
  exact ⟨by simpa using hl, fun b p h1 h15 hp => by
    rw [Array.getD_eq_getD_getElem?, List.getElem?_toArray, he b p h1 h15 hp]; rfl⟩

theorem buildTree_eq {l : List Nat} (hc : Complete l) :
    buildTree l = .ok (buildLevels l 15 [] 0).toArray := by
  have hm := (foldl_max_le_iff l 0 15).mpr
    ⟨by omega, fun x hx => by have := hc.lt16 x hx; omega⟩
  have h1 := buildLevels_top l (l.foldl max 0) (15 - l.foldl max 0)
    ((foldl_max_le_iff l 0 _).mp (Nat.le_refl _)).2
  rw [show l.foldl max 0 + (15 - l.foldl max 0) = 15 by omega] at h1
  have hlen := (treeOK_buildLevels hc).size
  rw [List.size_toArray, size_eq hc] at hlen
  rw [buildTree, ← h1, if_pos (by omega), hlen, Nat.sub_self]
  simp

end Preflate.Proofs

/- The container round trip: the scanner's chunk list covers the file, and the reader undoes the writer
   on a covering list. The oracle is only ever asked about candidates cut out of the file. -/
import Preflate.Model.Api
import Preflate.Proofs.ContainerScan
namespace Preflate.Proofs
open Preflate

/-- C01, with the oracle constrained only on candidates cut out of `f` -/
theorem recreate_expand_on (o : Oracle) (crc : Bytes → Nat) (f : Bytes)
    (hb : ∀ b ∈ f, b < 256) (hf : f.length < 2 ^ 32)
    (hpanic : ∀ d m, Cand f d → o.verified d ≠ .error (.panic m))
    (hsize : ∀ d r, Cand f d → o.verified d = .ok r →
      r.plain.length < 2 ^ 32 ∧ r.corr.length < 2 ^ 32) :
    ∃ c, expand o crc f = .ok c ∧ recreate o crc c = .ok f := by
  obtain ⟨chunks, hscan, hcov⟩ := (scanLoop_spec o crc f (fun d m hd => hpanic d m (asked_cand hb hf hd))
    (f.length + 1) 0 0 (Nat.le_refl _) (Nat.zero_le _) (by omega) (by omega)).exists_ok
  obtain ⟨w, hw, hr⟩ := readChunks_write o crc f hb hf (fun d r hd => hsize d r (asked_cand hb hf hd))
    chunks 0 hcov
  refine ⟨Gen.WRAPPER_VERSION :: w, by simp only [expand, scan, hscan, hw, ok_bind], ?_⟩
  rw [recreate, if_neg (fun h => h rfl)]
  exact hr _ (Nat.le_refl _)

theorem recreate_expand (o : Oracle) (crc : Bytes → Nat) (f : Bytes)
    (hb : ∀ b ∈ f, b < 256) (hf : f.length < 2 ^ 32)
    (hpanic : ∀ d m, o.verified d ≠ .error (.panic m))
    (hsize : ∀ d r, o.verified d = .ok r → r.plain.length < 2 ^ 32 ∧ r.corr.length < 2 ^ 32) :
    ∃ c, expand o crc f = .ok c ∧ recreate o crc c = .ok f :=
  recreate_expand_on o crc f hb hf (fun d m _ => hpanic d m) (fun d r _ => hsize d r)

/-- C11: the zstd pair, given a round trip of the container -/
theorem zstd_of_round_trip (z : Zstd) {o : Oracle} {crc : Bytes → Nat} {f c : Bytes}
    (hc : expand o crc f = .ok c) (hr : recreate o crc c = .ok f) :
    compressZstd z o crc f = .ok (z.compress c) ∧
      ∀ cap, c.length ≤ cap → decompressZstd z o crc (z.compress c) cap = .ok f :=
  ⟨by rw [compressZstd, hc, ok_bind],
   fun cap hcap => by rw [decompressZstd, z.roundtrip c cap hcap, ok_bind, hr]⟩

/-- C12: the two C ABI wrappers, given a round trip of the container -/
theorem wrapper_of_round_trip (z : Zstd) {o : Oracle} {crc : Bytes → Nat} {f c : Bytes}
    (hc : expand o crc f = .ok c) (hr : recreate o crc c = .ok f) {capC : Nat}
    (hC : (z.compress c).length ≤ capC) (hlim : c.length ≤ wrapperIntermediateLimit) :
    wrapCompress z o crc f capC = (0, z.compress c) ∧
    (∀ capD, f.length ≤ capD → wrapDecompress z o crc (z.compress c) capD = (0, f)) ∧
    (∀ capD, capD < f.length → (wrapDecompress z o crc (z.compress c) capD).1 = -1) := by
  refine ⟨?_, fun capD hD => ?_, fun capD hD => ?_⟩
  · rw [wrapCompress, hc, ok_bind, z.to_buffer, if_pos hC]
    rfl
  · rw [wrapDecompress, z.roundtrip c _ hlim, ok_bind, hr, ok_bind, intoCursor, if_pos hD]
    rfl
  · rw [wrapDecompress, z.roundtrip c _ hlim, ok_bind, hr, ok_bind, intoCursor, if_neg (Nat.not_le.mpr hD)]
    rfl

end Preflate.Proofs

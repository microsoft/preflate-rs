/-
The notions of `Model/WriteValid.lean` against the reader's functions. A symbol "has a code" (non-zero
length) exactly when `decodeSym` can return it, and then its canonical code decodes to it
(`decodeSym_code`, `decodeSym_coded`). Every length and distance is `base + extra` of some code
(`len_decomp`, `dist_decomp`: the code intervals tile the value range), and `lenCode` / `distCode`
give that code back (`lenCode_of`, `distCode_of`). `litLens` / `distLens` are what `litDistLengths`
returns. Used by both directions of C07's completeness half and by the RFC reading.
-/
import Preflate.Model.WriteValid
import Preflate.Proofs.Tables
import Preflate.Proofs.HuffTree
namespace Preflate.Proofs
open Preflate Preflate.Gen

theorem lt_length_of_getD_ne {l : List Nat} {s : Nat} (h : l.getD s 0 ≠ 0) : s < l.length :=
  Nat.lt_of_not_le fun hs => h (by rw [List.getD_eq_getElem?_getD, List.getElem?_eq_none hs]; rfl)

/-- Prefix-freeness, taken from the tree equivalence: `buildLevels` puts every code at a leaf of its
    own, so the walk along `codeBits l s` ends at `s`, and the walk is what `decodeSym` computes. -/
theorem decodeSym_code {l : List Nat} (hv : validLengths l = true) {s : Nat} (hs : l.getD s 0 ≠ 0)
    (rest : Bits) : decodeSym (codeTable l) (codeBits l s ++ rest) = .ok (s, rest) := by
  have hc := complete_of_valid hv
  have ht := treeOK_buildLevels hc
  rw [← decodeSymTree_spec hc ht,
    walk_of_prefix hc ht (codeTable_mem (lt_length_of_getD_ne hs) hs) (isPrefix_append _ _),
    List.drop_left]

theorem decodeSym_coded {l : List Nat} {bs : Bits} {s : Nat} {rest : Bits}
    (h : decodeSym (codeTable l) bs = .ok (s, rest)) :
    l.getD s 0 ≠ 0 ∧ bs.length = l.getD s 0 + rest.length := by
  obtain ⟨_, hne, e⟩ := decodeSym_eq_ok h
  exact ⟨hne, by rw [e, List.length_append, length_codeBits]⟩

theorem interval_cover {base width : Nat → Nat} (h0 : base 0 = 0) {n : Nat}
    (hs : ∀ c, c < n → base (c + 1) = base c + width c) {m : Nat} (hm : m < base n + width n) :
    ∃ c, c ≤ n ∧ base c ≤ m ∧ m < base c + width c := by
  induction n with
  | zero => exact ⟨0, Nat.le_refl _, by omega, hm⟩
  | succ n ih =>
    by_cases h : m < base n + width n
    · obtain ⟨c, hc, hb⟩ := ih (fun c hc => hs c (by omega)) h
      exact ⟨c, by omega, hb⟩
    · rw [← hs n (by omega)] at h
      exact ⟨n + 1, Nat.le_refl _, by omega, hm⟩

/-- 258 is `base + extra` of two codes: 28, and 27 with extra 31 (the irregular encoding, `irr`) -/
theorem len_decomp {len : Nat} {irr : Bool} (h1 : 3 ≤ len) (h2 : len ≤ 258)
    (h3 : irr = true → len = 258) :
    ∃ c ex, c < 29 ∧ ex < 2 ^ lengthExtra c ∧ len = 3 + lengthBase c + ex ∧
      irr = (len == 258 && c != 28) := by
  by_cases h258 : len = 258
  · subst h258
    cases irr
    · exact ⟨28, 0, by decide, by decide, by decide, by decide⟩
    · exact ⟨27, 31, by decide, by decide, by decide, by decide⟩
  · obtain ⟨c, hc, hlo, hhi⟩ := interval_cover (base := lengthBase)
      (width := fun c => 2 ^ lengthExtra c) (n := 27) (m := len - 3) rfl lengthBase_succ
      (by have : lengthBase 27 + 2 ^ lengthExtra 27 = 256 := by decide
          omega)
    refine ⟨c, len - 3 - lengthBase c, by omega, by omega, by omega, ?_⟩
    cases irr
    · simp [h258]
    · exact absurd (h3 rfl) h258

theorem dist_decomp {dist : Nat} (h1 : 1 ≤ dist) (h2 : dist ≤ 32768) :
    ∃ c dx, c < 30 ∧ dx < 2 ^ distExtra c ∧ dist = 1 + distBase c + dx := by
  obtain ⟨c, hc, hlo, hhi⟩ := interval_cover (base := distBase) (width := fun c => 2 ^ distExtra c)
    (n := 29) (m := dist - 1) rfl distBase_succ
    (by have : distBase 29 + 2 ^ distExtra 29 = 32768 := by decide
        omega)
  exact ⟨c, dist - 1 - distBase c, by omega, by omega, by omega⟩

theorem lenCode_of {c ex : Nat} (hc : c < 29) (hex : ex < 2 ^ lengthExtra c) :
    lenCode (3 + lengthBase c + ex) (3 + lengthBase c + ex == 258 && c != 28) = c := by
  by_cases hirr : (3 + lengthBase c + ex == 258 && c != 28) = true
  · rw [hirr]
    have := length_irregular hc hex (by simpa using hirr)
    simp [lenCode, LEN_CODE_COUNT, this.1]
  · have hq := length_regular hc hex (by simpa using hirr)
    rw [Bool.not_eq_true] at hirr
    rw [hirr]
    unfold quantizeLength at hq
    rw [if_neg (by simp only [MIN_MATCH]; omega)] at hq
    simpa [lenCode] using idx_getD hq

theorem distCode_of {c dx : Nat} (hc : c < 30) (hdx : dx < 2 ^ distExtra c) :
    distCode (1 + distBase c + dx) = c := by
  have hq := dist_quantize hc hdx
  unfold quantizeDistance at hq
  rw [if_neg (by omega)] at hq
  unfold distCode
  by_cases h : 1 + distBase c + dx ≤ 256
  · rw [if_pos h] at hq ⊢
    exact idx_getD hq
  · rw [if_neg h] at hq ⊢
    exact idx_getD hq

end Preflate.Proofs

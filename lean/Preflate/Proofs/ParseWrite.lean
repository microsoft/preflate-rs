/-
Completeness direction of C07: every well-formed block list (`Model/WriteValid.lean`) is written
without a failure, and the parser reads the written stream back as exactly that block list, that
plain text and that padding, whatever follows the stream. With `write_parse` this characterises what the
parser accepts (`parse_iff`) and shows that its result depends only on the bytes it consumed
(`parse_prefix`).
-/
import Preflate.Proofs.ParseWriteBlock
import Preflate.Proofs.ParseWriteConv
import Preflate.Proofs.Total
namespace Preflate.Proofs
open Preflate Preflate.Gen

theorem parse_write_bits_aligned (plain : Array Nat) (blocks : List Block) (pad : Nat)
    (hw : WellFormed plain blocks pad) :
    ∃ w, writeStreamBits blocks pad = .ok w ∧ w.length % 8 = 0 ∧
      ∀ rest, rest.length % 8 = 0 → parseBits (w ++ rest) = .ok ⟨blocks, pad, plain, rest⟩ := by
  obtain ⟨⟨hne, hvb, hend⟩, hcoded⟩ := hw
  obtain ⟨x, hx, hpad, hr⟩ := writeBlocks_read pad blocks 0 0 hne hvb hcoded
  simp only [Nat.zero_add] at hpad hr
  have hal : (x.length + padCount x.length) % 8 = 0 := by unfold padCount; omega
  refine ⟨x ++ padBits x.length pad, ?_, ?_, fun rest hrest => ?_⟩
  · simp only [writeStreamBits, hx, ok_bind]
  · simp only [List.length_append, padBits, length_bitsOfNat]; exact hal
  · have hlen : (padBits x.length pad ++ rest).length = padCount x.length + rest.length := by
      rw [List.length_append, padBits, length_bitsOfNat]
    obtain ⟨cur', h1, h2⟩ := hr #[] (prefixAt_empty plain) (padBits x.length pad ++ rest)
      ((x ++ (padBits x.length pad ++ rest)).length + 1) (by rw [List.length_append]; omega)
      (by omega)
    rw [hend] at h2
    cases prefixAt_full h2
    rw [List.append_assoc]
    refine parseBits_eq_ok.mpr ⟨_, h1, ?_⟩
    rw [mod8_eq_padCount x.length _ (by omega)]
    exact readBits_app hpad rest

theorem parse_write_bits (plain : Array Nat) (blocks : List Block) (pad : Nat)
    (hw : WellFormed plain blocks pad) :
    ∃ w, writeStreamBits blocks pad = .ok w ∧
      ∀ rest, rest.length % 8 = 0 → parseBits (w ++ rest) = .ok ⟨blocks, pad, plain, rest⟩ := by
  obtain ⟨w, h1, _, h2⟩ := parse_write_bits_aligned plain blocks pad hw
  exact ⟨w, h1, h2⟩

theorem parse_write (plain : Array Nat) (blocks : List Block) (pad : Nat)
    (hw : WellFormed plain blocks pad) :
    ∃ bytes, writeStream blocks pad = .ok bytes ∧
      ∀ x : List UInt8, parse (bytes ++ x) = .ok ⟨blocks, pad, plain, bytesToBits x⟩ := by
  obtain ⟨w, h1, h8, h2⟩ := parse_write_bits_aligned plain blocks pad hw
  refine ⟨bitsToBytes w, by simp only [writeStream, h1, ok_bind], ?_⟩
  intro x
  unfold parse
  rw [bytesToBits_append, bytesToBits_bitsToBytes (w.length / 8) w (by omega)]
  exact h2 _ (by rw [length_bytesToBits]; omega)

theorem parse_wellFormed (d : List UInt8) (p : Parsed) (h : parse d = .ok p) :
    WellFormed p.plain p.blocks p.eofPadding :=
  ⟨(parse_valid_unbounded _ p h).1,
    parseBits_coded _ (by rw [length_bytesToBits]; omega) p h⟩

/-- The parser's result depends only on the bytes it consumed: what it returned is well formed and
    the writer re-emits the consumed bytes from it (`write_parse`), so by completeness the parser
    reads those bytes back as the same result whatever follows them. -/
theorem parse_prefix (d : List UInt8) (p : Parsed) (h : parse d = .ok p) (x : List UInt8) :
    parse (d.take (p.consumed d) ++ x) = .ok { p with rest := bytesToBits x } := by
  obtain ⟨bytes, hb, hx⟩ := parse_write _ _ _ (parse_wellFormed d p h)
  cases hb.symm.trans (write_parse d p h).1
  exact hx x

/-- a stream that the parser consumes entirely has no accepted proper prefix: an accepted prefix could be
    continued to the whole stream with the same result (`parse_prefix`), leaving bytes unread -/
theorem parse_take_rejected {d : List UInt8} {p : Parsed} (h : parse d = .ok p) (hr : p.rest = [])
    {k : Nat} (hk : k < d.length) : parse (d.take k) = .error .err := by
  cases hq : parse (d.take k) with
  | error e => rw [parseBits_error _ e hq]
  | ok q =>
    have hc : q.consumed (d.take k) ≤ k :=
      Nat.le_trans (write_parse _ q hq).2 (List.length_take_le k d)
    have h2 := parse_prefix _ q hq (d.drop (q.consumed (d.take k)))
    rw [List.take_take, Nat.min_eq_left hc, List.take_append_drop, h] at h2
    have hrest := congrArg (fun r => (Parsed.rest r).length) (Except.ok.inj h2)
    simp only [hr, List.length_nil, length_bytesToBits, List.length_drop] at hrest
    omega

theorem consumed_prefix (d : List UInt8) (p : Parsed) (h : parse d = .ok p) (x : List UInt8) :
    ({ p with rest := bytesToBits x } : Parsed).consumed (d.take (p.consumed d) ++ x) = p.consumed d := by
  have hl := length_bytesToBits d
  have hr8 := parse_rest_aligned h
  have hk : p.consumed d ≤ d.length := (write_parse d p h).2
  unfold Parsed.consumed at *
  simp only [List.length_append, List.length_take, length_bytesToBits]
  omega

theorem parse_iff (d : List UInt8) (p : Parsed) :
    parse d = .ok p ↔ ∃ bytes x, WellFormed p.plain p.blocks p.eofPadding ∧
      writeStream p.blocks p.eofPadding = .ok bytes ∧ d = bytes ++ x ∧ p.rest = bytesToBits x := by
  constructor
  · intro h
    refine ⟨d.take (p.consumed d), d.drop (p.consumed d), parse_wellFormed d p h,
      (write_parse d p h).1, (List.take_append_drop _ _).symm, ?_⟩
    have := parse_prefix d p h (d.drop (p.consumed d))
    rw [List.take_append_drop, h] at this
    exact congrArg Parsed.rest (Except.ok.inj this)
  · rintro ⟨bytes, x, hw, hws, rfl, hrest⟩
    obtain ⟨bytes', h1, h2⟩ := parse_write _ _ _ hw
    cases hws.symm.trans h1
    rw [h2 x, ← hrest]

end Preflate.Proofs

/-
Reading the operation list (Model/Predict.lean): a pop succeeds exactly on the operation it asks for, and
`decDiff` inverts `encDiff`.
-/
import Preflate.Model.Predict
import Preflate.Proofs.Except
namespace Preflate.Proofs
open Preflate

theorem decDiff_encDiff (p a : Nat) : decDiff p (encDiff p a) = .ok a := by
  unfold decDiff encDiff
  by_cases h : p ≥ a
  · rw [if_pos h, if_pos (Nat.mul_mod_left ..), Nat.mul_div_cancel _ (by decide), if_pos (Nat.sub_le ..),
      Nat.sub_sub_self h]
  · have h1 : ((a - p) * 2 + 1) % 2 ≠ 0 := by omega
    have h2 : ((a - p) * 2 + 1) / 2 = a - p := by omega
    rw [if_neg h, if_neg h1, h2, Nat.add_sub_cancel' (Nat.le_of_not_le h)]

theorem popMis_eq_ok {ctx : Nat} {f : Bool} {a ops : List Op} :
    popMis ctx a = .ok (f, ops) ↔ a = .mis ctx f :: ops := by
  refine ⟨fun h => ?_, fun h => h ▸ if_pos rfl⟩
  match a, h with
  | .mis c _ :: _, h =>
    by_cases hc : c = ctx
    · cases (if_pos hc).symm.trans h
      rw [hc]
    · cases (if_neg hc).symm.trans h

theorem popCorr_eq_ok {ctx v : Nat} {a ops : List Op} :
    popCorr ctx a = .ok (v, ops) ↔ a = .corr ctx v :: ops := by
  refine ⟨fun h => ?_, fun h => h ▸ if_pos rfl⟩
  match a, h with
  | .corr c _ :: _, h =>
    by_cases hc : c = ctx
    · cases (if_pos hc).symm.trans h
      rw [hc]
    · cases (if_neg hc).symm.trans h

theorem popValue_eq_ok {bits v : Nat} {a ops : List Op} :
    popValue bits a = .ok (v, ops) ↔ a = .value bits v :: ops := by
  refine ⟨fun h => ?_, fun h => h ▸ if_pos rfl⟩
  match a, h with
  | .value b _ :: _, h =>
    by_cases hb : b = bits
    · cases (if_pos hb).symm.trans h
      rw [hb]
    · cases (if_neg hb).symm.trans h

@[simp] theorem popMis_cons (c : Nat) (f : Bool) (r : List Op) : popMis c (Op.mis c f :: r) = .ok (f, r) :=
  popMis_eq_ok.mpr rfl
@[simp] theorem popCorr_cons (c v : Nat) (r : List Op) : popCorr c (Op.corr c v :: r) = .ok (v, r) :=
  popCorr_eq_ok.mpr rfl
@[simp] theorem popValue_cons (c v : Nat) (r : List Op) : popValue c (Op.value c v :: r) = .ok (v, r) :=
  popValue_eq_ok.mpr rfl

/- The same with the continuation. As `↓` simp lemmas they run a reader front to back: the continuation is
   only visited once its argument is known. -/
theorem popMis_bind {β : Type} (c : Nat) (f : Bool) (r : List Op) (k : Bool × List Op → R β) :
    (popMis c (Op.mis c f :: r) >>= k) = k (f, r) := by
  rw [popMis_cons, ok_bind]
theorem popCorr_bind {β : Type} (c v : Nat) (r : List Op) (k : Nat × List Op → R β) :
    (popCorr c (Op.corr c v :: r) >>= k) = k (v, r) := by
  rw [popCorr_cons, ok_bind]
theorem popValue_bind {β : Type} (b v : Nat) (r : List Op) (k : Nat × List Op → R β) :
    (popValue b (Op.value b v :: r) >>= k) = k (v, r) := by
  rw [popValue_cons, ok_bind]

end Preflate.Proofs

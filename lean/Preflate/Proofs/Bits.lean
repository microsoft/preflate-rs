/-
What the primitives of the reader and the writer do (Model/Bits.lean, Model/Huffman.lean): `readBits`
reads back what `bitsOfNat` / `emit` wrote and nothing else, `bytesToBits` and `bitsToBytes` are
inverse on whole bytes, and a symbol decoded with a code table is a symbol of the table, its
non-empty canonical code in front of the rest.
-/
import Preflate.Model.Huffman
import Preflate.Proofs.Except
namespace Preflate.Proofs
open Preflate

@[simp] theorem length_bitsOfNat (n v : Nat) : (bitsOfNat n v).length = n := by
  induction n generalizing v with
  | zero => rfl
  | succ n ih => simp [bitsOfNat, ih]

/-- the right side is the bit `writeBlock` emits for `last = (v == 1)` -/
theorem bitsOfNat_one {v : Nat} (h : v < 2 ^ 1) :
    bitsOfNat 1 v = [if (v == 1) = true then true else false] := by
  have : v = 0 ∨ v = 1 := by omega
  rcases this with rfl | rfl <;> rfl

theorem length_flatMap_bytes (data : List Nat) :
    (data.flatMap (bitsOfNat 8)).length = 8 * data.length := by
  induction data with
  | nil => rfl
  | cons x r ih =>
    simp only [List.flatMap_cons, List.length_append, length_bitsOfNat, ih, List.length_cons]
    omega

theorem natOfBits_bitsOfNat (n v : Nat) : natOfBits (bitsOfNat n v) = v % 2 ^ n := by
  induction n generalizing v with
  | zero => simp [bitsOfNat, natOfBits, Nat.mod_one]
  | succ n ih =>
    simp only [bitsOfNat, natOfBits, ih]
    rw [Nat.pow_succ', Nat.mod_mul]
    rcases Nat.mod_two_eq_zero_or_one v with h | h <;> simp [h]

theorem natOfBits_lt (w : Bits) : natOfBits w < 2 ^ w.length := by
  induction w with
  | nil => exact Nat.one_pos
  | cons b w ih =>
    rw [natOfBits, List.length_cons, Nat.pow_succ]
    cases b <;> simp <;> omega

theorem bitsOfNat_natOfBits (w : Bits) : bitsOfNat w.length (natOfBits w) = w := by
  induction w with
  | nil => rfl
  | cons b w ih =>
    rw [List.length_cons, bitsOfNat, natOfBits]
    cases b <;> simp [Nat.add_mul_div_left, ih] <;> omega

theorem readBits_ok {n : Nat} {bs : Bits} {v : Nat} {rest : Bits}
    (h : readBits n bs = .ok (v, rest)) : bs = bitsOfNat n v ++ rest ∧ v < 2 ^ n := by
  induction n generalizing bs v with
  | zero =>
    simp only [readBits, Except.ok.injEq, Prod.mk.injEq] at h
    obtain ⟨rfl, rfl⟩ := h
    simp [bitsOfNat]
  | succ n ih =>
    cases bs with
    | nil => simp [readBits] at h
    | cons b bs =>
      simp only [readBits] at h
      cases hr : readBits n bs with
      | error e => simp [hr] at h
      | ok p =>
        obtain ⟨v', rest'⟩ := p
        simp only [hr, Except.ok.injEq, Prod.mk.injEq] at h
        obtain ⟨rfl, rfl⟩ := h
        obtain ⟨h1, h2⟩ := ih hr
        constructor
        · simp only [bitsOfNat, List.cons_append, List.cons.injEq]
          constructor
          · cases b <;> simp <;> omega
          · have : ((if b = true then 1 else 0) + 2 * v') / 2 = v' := by
              cases b <;> simp <;> omega
            rw [this]; exact h1
        · rw [Nat.pow_succ]
          cases b <;> simp <;> omega

theorem readBits_len {n : Nat} {bs : Bits} {v : Nat} {rest : Bits}
    (h : readBits n bs = .ok (v, rest)) : rest.length + n = bs.length := by
  rw [(readBits_ok h).1, List.length_append, length_bitsOfNat, Nat.add_comm]

theorem readBits_app {n v : Nat} (hv : v < 2 ^ n) (rest : Bits) :
    readBits n (bitsOfNat n v ++ rest) = .ok (v, rest) := by
  induction n generalizing v with
  | zero =>
    have : v = 0 := by simpa using hv
    subst this
    simp [bitsOfNat, readBits]
  | succ n ih =>
    have h2 : v / 2 < 2 ^ n := by rw [Nat.pow_succ] at hv; omega
    simp only [bitsOfNat, List.cons_append, readBits, ih h2]
    have : (if (v % 2 == 1) = true then 1 else 0) + 2 * (v / 2) = v := by
      by_cases h : v % 2 = 1 <;> simp [h] <;> omega
    rw [this]

theorem emit_ok {v n : Nat} (site : String) (h : v < 2 ^ n) : emit v n site = .ok (bitsOfNat n v) := by
  simp [emit, h]

theorem length_byteBits (b : UInt8) : (byteBits b).length = 8 := by simp [byteBits]

theorem byteBits_ofBits {w : Bits} (hw : w.length = 8) : byteBits (UInt8.ofNat (natOfBits w)) = w := by
  have hlt := natOfBits_lt w
  rw [hw] at hlt
  rw [byteBits, UInt8.toNat_ofNat', Nat.mod_eq_of_lt hlt, ← hw, bitsOfNat_natOfBits]

theorem length_bytesToBits (d : List UInt8) : (bytesToBits d).length = 8 * d.length := by
  induction d with
  | nil => rfl
  | cons b d ih =>
    simp only [bytesToBits, List.flatMap_cons, List.length_append, length_byteBits] at *
    simp only [List.length_cons]; omega

theorem bytesToBits_cons (b : UInt8) (d : List UInt8) :
    bytesToBits (b :: d) = byteBits b ++ bytesToBits d := by
  simp [bytesToBits]

theorem bytesToBits_append (a b : List UInt8) :
    bytesToBits (a ++ b) = bytesToBits a ++ bytesToBits b := by
  simp [bytesToBits]

theorem bitsToBytes_byteBits_append (b : UInt8) (r : Bits) :
    bitsToBytes (byteBits b ++ r) = b :: bitsToBytes r := by
  have h : UInt8.ofNat (natOfBits (bitsOfNat 8 b.toNat)) = b := by
    rw [natOfBits_bitsOfNat]
    have : b.toNat % 2 ^ 8 = b.toNat := Nat.mod_eq_of_lt (by have := b.toNat_lt; omega)
    rw [this]; simp
  simp only [byteBits, bitsOfNat, List.cons_append, List.nil_append, bitsToBytes] at *
  rw [h]

theorem bitsToBytes_prefix (k : Nat) (d : List UInt8) (w rest : Bits)
    (h : bytesToBits d = w ++ rest) (hk : w.length = 8 * k) :
    bitsToBytes w = d.take k := by
  induction k generalizing d w with
  | zero =>
    have : w = [] := List.length_eq_zero_iff.mp (by omega)
    subst this; simp [bitsToBytes]
  | succ k ih =>
    cases d with
    | nil =>
      have := congrArg List.length h
      simp [bytesToBits] at this
      omega
    | cons b d =>
      rw [bytesToBits_cons] at h
      have h8 : (byteBits b).length = 8 := length_byteBits b
      have ht := congrArg (List.take 8) h
      have hd := congrArg (List.drop 8) h
      rw [List.take_append_of_le_length (by omega), List.take_append_of_le_length (by omega),
        List.take_of_length_le (by omega)] at ht
      rw [List.drop_append_of_le_length (by omega), List.drop_append_of_le_length (by omega),
        List.drop_of_length_le (by omega), List.nil_append] at hd
      have hw : w = byteBits b ++ w.drop 8 := by
        rw [ht]; exact (List.take_append_drop 8 w).symm
      have := ih d (w.drop 8) hd (by simp; omega)
      rw [hw, bitsToBytes_byteBits_append, List.take_succ_cons, this]

theorem bytesToBits_bitsToBytes : ∀ (k : Nat) (w : Bits), w.length = 8 * k →
    bytesToBits (bitsToBytes w) = w := by
  intro k
  induction k with
  | zero =>
    intro w hw
    have : w = [] := List.length_eq_zero_iff.mp (by omega)
    subst this; rfl
  | succ k ih =>
    intro w hw
    match w, hw with
    | b0 :: b1 :: b2 :: b3 :: b4 :: b5 :: b6 :: b7 :: rest, hw =>
      rw [bitsToBytes, bytesToBits_cons, byteBits_ofBits rfl, ih rest (by simp at hw; omega)]
      rfl

theorem mod8_eq_padCount (off r : Nat) (h : (off + r) % 8 = 0) : r % 8 = padCount off := by
  unfold padCount; omega

theorem isPrefix_eq {a b : Bits} (h : isPrefix a b = true) : b = a ++ b.drop a.length := by
  induction a generalizing b with
  | nil => simp
  | cons x a ih =>
    cases b with
    | nil => simp [isPrefix] at h
    | cons y b =>
      simp only [isPrefix, Bool.and_eq_true, beq_iff_eq] at h
      obtain ⟨rfl, h2⟩ := h
      simp only [List.length_cons, List.drop_succ_cons, List.cons_append, List.cons.injEq, true_and]
      exact ih h2

theorem isPrefix_append (a b : Bits) : isPrefix a (a ++ b) = true := by
  induction a with
  | nil => rfl
  | cons x a ih => simp [isPrefix, ih]

theorem mkTable_eq_ok {l : List Nat} {t : List (Bits × Nat)} :
    mkTable l = .ok t ↔ validLengths l = true ∧ t = codeTable l := by
  unfold mkTable
  by_cases hv : validLengths l = true
  · rw [if_pos hv]
    exact ⟨fun h => ⟨hv, (Except.ok.inj h).symm⟩, fun h => by rw [h.2]⟩
  · rw [if_neg hv]
    exact ⟨fun h => (nomatch h), fun h => absurd h.1 hv⟩

theorem length_codeBits (l : List Nat) (s : Nat) : (codeBits l s).length = l.getD s 0 := by
  simp [codeBits]

theorem mem_codeTable {l : List Nat} {c : Bits} {s : Nat} (h : (c, s) ∈ codeTable l) :
    c = codeBits l s ∧ s < l.length ∧ l.getD s 0 ≠ 0 := by
  simp only [codeTable, List.mem_filterMap, List.mem_range] at h
  obtain ⟨a, ha, hm⟩ := h
  split at hm
  · simp at hm
  · rename_i hne
    simp only [Option.some.injEq, Prod.mk.injEq] at hm
    obtain ⟨rfl, rfl⟩ := hm
    exact ⟨rfl, ha, hne⟩

theorem codeTable_mem {l : List Nat} {s : Nat} (hs : s < l.length) (hl : l.getD s 0 ≠ 0) :
    (codeBits l s, s) ∈ codeTable l := by
  simp only [codeTable, List.mem_filterMap, List.mem_range]
  exact ⟨s, hs, by rw [if_neg hl]⟩

theorem decodeSym_eq_ok {l : List Nat} {bs : Bits} {s : Nat} {rest : Bits}
    (h : decodeSym (codeTable l) bs = .ok (s, rest)) :
    s < l.length ∧ l.getD s 0 ≠ 0 ∧ bs = codeBits l s ++ rest := by
  unfold decodeSym at h
  split at h
  · rename_i c s' hf
    cases h
    have hp := List.find?_some hf
    obtain ⟨rfl, hs, hne⟩ := mem_codeTable (List.mem_of_find?_eq_some hf)
    exact ⟨hs, hne, isPrefix_eq hp⟩
  · cases h

/-- every code of a code table is non-empty, so decoding a symbol consumes at least one bit -/
theorem decodeSym_lt {l : List Nat} {bs : Bits} {s : Nat} {rest : Bits}
    (h : decodeSym (codeTable l) bs = .ok (s, rest)) : rest.length < bs.length := by
  obtain ⟨_, hne, e⟩ := decodeSym_eq_ok h
  rw [e, List.length_append, length_codeBits]
  omega

end Preflate.Proofs

/-
The public stream pair (Model/Stream.lean): exactness, equality of the two verify settings, and
dependence on the consumed prefix only. Statements: Props/C02.lean.
-/
import Preflate.Model.Stream
import Preflate.Proofs.ParseWrite
import Preflate.Proofs.EndToEnd
import Preflate.Proofs.Params
import Preflate.Proofs.OpsWF
import Preflate.Proofs.VP8
namespace Preflate.Proofs
open Preflate

variable {H : Type}

/-- the verify=true block never fails and never trips its assertion when the analysis succeeded -/
theorem verifyStream_ok (mk : Params → Pred H) (d : List UInt8) (p : Parsed)
    (hp : parse d = .ok p) (params : Params) (hr : EstimatorRange params) (hdr : List Op)
    (hh : writeParams params = .ok hdr) (body : List Op)
    (hb : encStream (mk params) p.plain p.blocks p.eofPadding = .ok body) :
    verifyStream mk params p.plain (hdr ++ body) (d.take (p.consumed d)) = .ok () := by
  obtain ⟨blocks, pad, h3, h4⟩ := recompress_analyze (mk params) d p hp body hb
  simp only [verifyStream, readParams_written params (estimatorRange_wf params hr) hdr hh body, ok_bind, ne_eq,
    not_true_eq_false, if_false, h3, h4]

theorem recompressStream_ok (mk : Params → Pred H) (d : List UInt8) (p : Parsed)
    (hp : parse d = .ok p) (params : Params) (hr : EstimatorRange params) (hdr : List Op)
    (hh : writeParams params = .ok hdr) (body : List Op)
    (hb : encStream (mk params) p.plain p.blocks p.eofPadding = .ok body) :
    recompressStream mk p.plain (hdr ++ body) = .ok (d.take (p.consumed d)) := by
  obtain ⟨blocks, pad, h3, h4⟩ := recompress_analyze (mk params) d p hp body hb
  simp only [recompressStream, readParams_written params (estimatorRange_wf params hr) hdr hh body, ok_bind, h3, h4]

theorem decompressStream_ok {est : Array Nat → List Block → R Params} {mk : Params → Pred H}
    {verify : Bool} {d : List UInt8} {r : StreamResult}
    (h : decompressStream est mk verify d = .ok r) :
    ∃ p params hdr body, parse d = .ok p ∧ est p.plain p.blocks = .ok params ∧
      writeParams params = .ok hdr ∧ encStream (mk params) p.plain p.blocks p.eofPadding = .ok body ∧
      r = ⟨p.plain, hdr ++ body, p.consumed d, params⟩ := by
  simp only [decompressStream, bind_eq_ok] at h
  obtain ⟨p, h1, params, h2, hdr, h3, body, h4, h⟩ := h
  refine ⟨p, params, hdr, body, h1, h2, h3, h4, ?_⟩
  cases verify
  · simp only [Bool.false_eq_true, if_false, Except.ok.injEq] at h
    exact h.symm
  · simp only [if_true, bind_eq_ok, Except.ok.injEq] at h
    obtain ⟨_, _, h⟩ := h
    exact h.symm

theorem decompressStream_corr_wf {est : Array Nat → List Block → R Params} {mk : Params → Pred H}
    {verify : Bool} {d : List UInt8} {r : StreamResult} (hb : ∀ q, PredBounded (mk q))
    (hest : ∀ p, parse d = .ok p → ∀ q, est p.plain p.blocks = .ok q → EstimatorRange q)
    (h : decompressStream est mk verify d = .ok r) : ∀ o ∈ r.corr, o.WF := by
  obtain ⟨p, params, hdr, body, h1, h2, h3, h4, rfl⟩ := decompressStream_ok h
  obtain ⟨hv, hpad⟩ := parse_valid_unbounded (bytesToBits d) p h1
  obtain ⟨ops, e1, -, hwf1⟩ := readParams_writeParams params (estimatorRange_wf params (hest p h1 _ h2)) []
  cases h3.symm.trans e1
  have hwf2 := encStream_ops_wf_of_tokenCounts (mk params) (hb params) p.plain p.blocks p.eofPadding hv hpad
    (parse_tokenCountsSmall d p h1) body h4
  exact fun o ho => (List.mem_append.mp ho).elim (hwf1 o) (hwf2 o)

/-- recompress(decompress D) = D[..size], either verify setting. `decompressStream` consults the estimator on
    the parse result only, so the estimator's range is needed there only. -/
theorem recompress_decompress_at (est : Array Nat → List Block → R Params) (mk : Params → Pred H)
    (verify : Bool) (d : List UInt8)
    (hest : ∀ p, parse d = .ok p → ∀ q, est p.plain p.blocks = .ok q → EstimatorRange q)
    (r : StreamResult) (h : decompressStream est mk verify d = .ok r) :
    recompressStream mk r.plain r.corr = .ok (d.take r.size) ∧ r.size ≤ d.length := by
  obtain ⟨p, params, hdr, body, h1, h2, h3, h4, rfl⟩ := decompressStream_ok h
  exact ⟨recompressStream_ok mk d p h1 params (hest p h1 _ h2) hdr h3 body h4, (write_parse d p h1).2⟩

theorem recompress_decompress (est : Array Nat → List Block → R Params) (mk : Params → Pred H)
    (hest : ∀ pl bl q, est pl bl = .ok q → EstimatorRange q)
    (verify : Bool) (d : List UInt8) (r : StreamResult)
    (h : decompressStream est mk verify d = .ok r) :
    recompressStream mk r.plain r.corr = .ok (d.take r.size) ∧ r.size ≤ d.length :=
  recompress_decompress_at est mk verify d (fun _ _ _ => hest _ _ _) r h

theorem decompress_bytes_chain_at (est : Array Nat → List Block → R Params) (mk : Params → Pred H)
    (hb : ∀ q, PredBounded (mk q)) (verify : Bool) (d : List UInt8)
    (hest : ∀ p, parse d = .ok p → ∀ q, est p.plain p.blocks = .ok q → EstimatorRange q)
    (r : StreamResult) (h : decompressStream est mk verify d = .ok r) :
    ∃ evs bytes, encodeOps 0 r.corr = .ok evs ∧ encodeBytes r.corr = .ok bytes ∧
      decodeOps 0 (r.corr.map Op.kind) (VP8.readEvents bytes (evs.map (·.ctx))) = .ok (r.corr, 0, []) ∧
      recompressStream mk r.plain r.corr = .ok (d.take r.size) := by
  obtain ⟨evs, bytes, e1, e2, -, e4⟩ := bytes_roundtrip r.corr (decompressStream_corr_wf hb hest h)
  exact ⟨evs, bytes, e1, e2, e4, (recompress_decompress_at est mk verify d hest r h).1⟩

theorem decompress_bytes_chain (est : Array Nat → List Block → R Params) (mk : Params → Pred H)
    (hest : ∀ pl bl q, est pl bl = .ok q → EstimatorRange q) (hb : ∀ q, PredBounded (mk q))
    (verify : Bool) (d : List UInt8) (r : StreamResult)
    (h : decompressStream est mk verify d = .ok r) :
    ∃ evs bytes, encodeOps 0 r.corr = .ok evs ∧ encodeBytes r.corr = .ok bytes ∧
      decodeOps 0 (r.corr.map Op.kind) (VP8.readEvents bytes (evs.map (·.ctx))) = .ok (r.corr, 0, []) ∧
      recompressStream mk r.plain r.corr = .ok (d.take r.size) :=
  decompress_bytes_chain_at est mk hb verify d (fun _ _ _ => hest _ _ _) r h

theorem verify_same_at (est : Array Nat → List Block → R Params) (mk : Params → Pred H) (d : List UInt8)
    (hest : ∀ p, parse d = .ok p → ∀ q, est p.plain p.blocks = .ok q → EstimatorRange q) :
    decompressStream est mk true d = decompressStream est mk false d := by
  unfold decompressStream
  refine bind_congr_ok fun p hp => bind_congr_ok fun params he => bind_congr_ok fun hdr hw =>
    bind_congr_ok fun body hb => ?_
  simp only [if_true, Bool.false_eq_true, if_false, ok_bind,
    verifyStream_ok mk d p hp params (hest p hp _ he) hdr hw body hb]

theorem verify_same (est : Array Nat → List Block → R Params) (mk : Params → Pred H)
    (hest : ∀ pl bl q, est pl bl = .ok q → EstimatorRange q)
    (d : List UInt8) :
    decompressStream est mk true d = decompressStream est mk false d :=
  verify_same_at est mk d fun _ _ _ => hest _ _ _

theorem decompress_prefix (est : Array Nat → List Block → R Params) (mk : Params → Pred H)
    (verify : Bool) (d : List UInt8) (r : StreamResult)
    (h : decompressStream est mk verify d = .ok r) (x : List UInt8) :
    decompressStream est mk verify (d.take r.size ++ x) = .ok r := by
  have h0 := h
  obtain ⟨p, params, hdr, body, h1, h2, h3, h4, rfl⟩ := decompressStream_ok h
  have hk : p.consumed d ≤ d.length := (write_parse d p h1).2
  have htake : (d.take (p.consumed d) ++ x).take (p.consumed d) = d.take (p.consumed d) := by
    rw [List.take_append_of_le_length (by rw [List.length_take]; omega), List.take_take]
    simp
  simp only [decompressStream, h1, ok_bind, h2, h3, h4] at h0
  simp only [decompressStream, parse_prefix d p h1 x, ok_bind, h2, h3, h4, consumed_prefix d p h1 x, htake]
  exact h0

end Preflate.Proofs

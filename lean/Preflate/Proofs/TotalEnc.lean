/-
C05: producing corrections for a valid stream has no panic path (whatever the predictor answers).

The encoder (`encTok` … `encStream`) is walked ONCE: each of its functions either fails with a tolerated
failure or emits operations of a stated shape (`TokOps`, `ItemOps`, `TreeOps`, `BlockOps`, …; lists of them by
`Pieces`). Forgetting the shape gives C05; well-formedness (Proofs/OpsWF.lean), cost
(Proofs/CorrBoundPredict.lean) and number (Proofs/CorrBoundCount.lean) of the operations are read off the
shapes: one lemma per shape from its parts (`S.wf`, `S.cost`, `S.count`; for `Pieces` by `Pieces.forall_mem` /
`Pieces.measure_le`), then `encStream_ops` at the `L`, `LB` the property needs of the predictor.
-/
import Preflate.Proofs.Total
import Preflate.Proofs.Predict
namespace Preflate.Proofs
open Preflate Gen

variable {H : Type}

theorem run_length_le {α : Type} (p : α → Bool) (l : List α) (n k : Nat) :
    (((l.take n).drop k).takeWhile p).length ≤ n - k := by
  refine Nat.le_trans (List.takeWhile_sublist p).length_le ?_
  rw [List.length_drop, List.length_take]
  omega

def NP (e : Fail) : Prop := ∀ m, e ≠ .panic m

theorem NP.err : NP .err := fun _ h => by cases h

/-- The walk is generic in the class `E` of failures that are tolerated, as long as it contains
    `Err(PreflateError)`: `NP` (anything but a panic) gives "no panic path", `(· = .err)` gives "Err is
    the ONLY failure" (no panic and no exhausted loop bound), everything gives a statement about
    successful runs. -/
structure Tol (E : Fail → Prop) : Prop where
  err : E .err

theorem Tol.np : Tol NP := ⟨NP.err⟩
theorem Tol.onlyErr : Tol (· = .err) := ⟨rfl⟩
theorem Tol.any : Tol fun _ => True := ⟨trivial⟩

theorem Post.tolErr {E : Fail → Prop} (hE : Tol E) {α : Type} {Q : α → Prop} : Post E Q (.error .err : R α) :=
  .error _ hE.err

/-- a `pending_reference` whose length satisfies `L` -/
def PendL (L : Nat → Prop) (p : Option (Nat × Nat)) : Prop := ∀ l d, p = some (l, d) → L l

theorem PendL.none {L : Nat → Prop} : PendL L none := fun _ _ h => by cases h

/-- predicted and repredicted lengths satisfy `L`, on states whose pending reference does (the invariant
    is needed because `predict_token` hands back a stored pending reference unexamined).
    `PredTokBounded` is `L := (· < 2^30)`, `PredTight` is `L := (· ≤ 258)`; every predictor has `L := True`. -/
structure PredL (L : Nat → Prop) (P : Pred H) : Prop where
  predict : ∀ (plain : Array Nat) (s : PState H), PendL L s.pending →
    (∀ l d, (P.predictTok plain s).1 = .ref l d → L l) ∧ PendL L (P.predictTok plain s).2
  repredict : ∀ (plain : Array Nat) (s : PState H) (l d : Nat), PendL L s.pending →
    P.repredictTok plain s = .ok (l, d) → L l

theorem PredL.any (P : Pred H) : PredL (fun _ => True) P :=
  ⟨fun _ _ _ => ⟨fun _ _ _ => trivial, fun _ _ _ => trivial⟩, fun _ _ _ _ _ _ => trivial⟩

/-- `LB` holds of the code lengths the Huffman length calculator answers (it is only asked for max_bits
    15 and 7), and of what `predict_code_data` answers by itself: 0, or a repeat count up to 138 -/
structure LenL (LB : Nat → Prop) (P : Pred H) : Prop where
  small : ∀ n, n ≤ 138 → LB n
  bitlen : ∀ (freq : List Nat) (maxBits : Nat), maxBits ≤ 15 → ∀ x ∈ P.calcBitLengths freq maxBits, LB x

theorem LenL.any (P : Pred H) : LenL (fun _ => True) P :=
  ⟨fun _ _ => trivial, fun _ _ _ _ _ => trivial⟩

/-- `ops` is the concatenation of one piece per element of `xs`, each related to its element by `R` -/
inductive Pieces {α : Type} (R : α → List Op → Prop) : List α → List Op → Prop
  | nil : Pieces R [] []
  | cons {x : α} {xs : List α} {a b : List Op} : R x a → Pieces R xs b → Pieces R (x :: xs) (a ++ b)

theorem Pieces.forall_mem {α : Type} {R : α → List Op → Prop} {xs : List α} {ops : List Op}
    (h : Pieces R xs ops) {p : Op → Prop} (hR : ∀ x ∈ xs, ∀ a, R x a → ∀ o ∈ a, p o) : ∀ o ∈ ops, p o := by
  induction h with
  | nil => intro _ ho; cases ho
  | cons ha _ ih =>
    exact List.forall_mem_append.mpr
      ⟨hR _ (List.mem_cons_self ..) _ ha, ih fun x hx => hR x (List.mem_cons_of_mem _ hx)⟩

/-- An additive measure `m` of operation lists (`List.length`, `opsCost`) is bounded piece by piece: if the
    piece of `x` measures at most `k * w x + c`, the whole measures at most `k * Σ w + c * #pieces`. -/
theorem Pieces.measure_le {α : Type} {R : α → List Op → Prop} {xs : List α} {ops : List Op}
    (h : Pieces R xs ops) {m : List Op → Nat} (h0 : m [] = 0) (happ : ∀ a b, m (a ++ b) = m a + m b)
    (k c : Nat) (w : α → Nat) (hR : ∀ x ∈ xs, ∀ a, R x a → m a ≤ k * w x + c) :
    m ops ≤ k * (xs.map w).sum + c * xs.length := by
  induction h with
  | nil => exact Nat.le_trans (Nat.le_of_eq h0) (Nat.zero_le _)
  | cons ha _ ih =>
    have h1 := hR _ (List.mem_cons_self ..) _ ha
    have h2 := ih fun x hx => hR x (List.mem_cons_of_mem _ hx)
    rw [happ, List.map_cons, List.sum_cons, List.length_cons, Nat.mul_add, Nat.mul_succ]
    omega

/-- `predict_block` for one token: a flag; for a reference also the length correction against a predicted
    length satisfying `L`, a hop count, and the irregular-258 flag -/
inductive TokOps (L : Nat → Prop) : Token → List Op → Prop
  | lit (b c : Nat) (f : Bool) : c < 7 → TokOps L (.lit b) [.mis c f]
  | ref (len dist : Nat) (irr : Bool) (c : Nat) (f : Bool) (plen cd h : Nat) :
      c < 7 → L plen → cd < 10 → h ≤ 65535 →
      TokOps L (.ref len dist irr) ([.mis c f, .corr C_LEN (encDiff plen len), .corr cd h] ++
        if len = 258 then [.mis M_IRREGULAR258 irr] else [])

/-- `predict_ld_trees` for one run-length item: type and datum, each against a prediction -/
def ItemOps (LB : Nat → Prop) (it : RleItem) (ops : List Op) : Prop :=
  ∃ pt pd cd, pt ≤ 18 ∧ LB pd ∧ cd < 10 ∧
    ops = [.corr C_LD_TYPE (encDiff pt it.kind), .corr cd (encDiff pd it.data)]

/-- one of the three counts of a dynamic header: the flag, and the count itself if predicted wrong -/
def CountOps (ctx bits v : Nat) (ops : List Op) : Prop :=
  ops = [.mis ctx false] ∨ ops = [.mis ctx true, .value bits v]

/-- `predict_tree_for_block` -/
def TreeOps (LB : Nat → Prop) (h : Header) (ops : List Op) : Prop :=
  ∃ a b c d tc, ops = a ++ b ++ c ++ d ++ encTcLengths tc h.codeLengths h.numCodeLengths 0 ∧
    CountOps M_LITERAL_COUNT 5 ((h.numLiterals - 257) % 65536) a ∧
    CountOps M_DISTANCE_COUNT 5 ((h.numDist - 1) % 65536) b ∧ Pieces (ItemOps LB) h.items c ∧
    CountOps M_TREECODE_COUNT 4 ((h.numCodeLengths - 4) % 65536) d ∧ ∀ x ∈ tc, LB x

/-- a Huffman block: type, token count, the tokens, and a tree part `T` speaks of -/
def TokBlockOps (L : Nat → Prop) (btn : Nat) (ts : List Token) (T : List Op → Prop) (ops : List Op) : Prop :=
  ∃ tc toks tree, ops = .corr C_BLOCK_TYPE (encDiff 0 btn) :: .corr C_TOKEN_COUNT tc :: toks ++ tree ∧
    tc ≤ ts.length + 1 ∧ Pieces (TokOps L) ts toks ∧ T tree

def BlockOps (L LB : Nat → Prop) : Block → List Op → Prop
  | .stored pad data, ops => ops =
      [.corr C_BLOCK_TYPE (encDiff 0 1), .value 16 (data.length % 65536), .corr C_NONZERO_PADDING pad]
  | .fixed ts, ops => TokBlockOps L 2 ts (· = []) ops
  | .dynamic h ts, ops => TokBlockOps L 0 ts (TreeOps LB h) ops

/-- a block, after the EOF flag `predict_blocks` puts in front of it once the plaintext is used up -/
def EofBlockOps (L LB : Nat → Prop) (b : Block) (ops : List Op) : Prop :=
  ∃ (f : Bool) (a : List Op), BlockOps L LB b a ∧ ops = (if f then [.mis M_EOF true] else []) ++ a

/-- `encode_mispredictions` -/
def StreamOps (L LB : Nat → Prop) (blocks : List Block) (pad : Nat) (ops : List Op) : Prop :=
  ∃ b, Pieces (EofBlockOps L LB) blocks b ∧ ops = b ++ [.mis M_EOF false, .corr C_NONZERO_PADDING pad]

/-! ### the part of validity the encoder depends on: none of it mentions positions -/

def TokSmall : Token → Prop
  | .lit _ => True
  | .ref len _ _ => len ≤ 258

def BlockSmall : Block → Prop
  | .stored pad _ => pad < 256
  | .fixed ts => (∀ t ∈ ts, TokSmall t) ∧ ts.length < 2 ^ 32 - 1
  | .dynamic h ts => (∀ t ∈ ts, TokSmall t) ∧ ts.length < 2 ^ 32 - 1 ∧ HeaderValid h

theorem validToks_small (plain : Array Nat) : ∀ (ts : List Token) (pos : Nat),
    ValidToks plain pos ts → ∀ t ∈ ts, TokSmall t := by
  intro ts
  induction ts with
  | nil => intro _ _ t ht; cases ht
  | cons t0 ts ih =>
    intro pos hv t ht
    rcases List.mem_cons.mp ht with rfl | ht
    · cases t with
      | lit b => trivial
      | ref len dist irr => exact hv.1.2.1
    · exact ih _ hv.2 t ht

theorem blocksSmall_of_valid (plain : Array Nat) : ∀ (blocks : List Block) (pos : Nat),
    ValidBlocks plain pos blocks → ∀ b ∈ blocks, BlockSmall b := by
  intro blocks
  induction blocks with
  | nil => intro _ _ b hb; cases hb
  | cons b0 rest ih =>
    intro pos hv b hb
    rcases List.mem_cons.mp hb with rfl | hb
    · cases b with
      | stored pad data => exact hv.1.1
      | fixed ts => exact ⟨validToks_small plain ts _ hv.1.1, hv.1.2⟩
      | dynamic h ts => exact ⟨validToks_small plain ts _ hv.1.1, hv.1.2.1, hv.1.2.2⟩
    · exact ih _ hv.2 b hb

/-- only dynamic blocks consult the length calculator -/
def HasDynamic (blocks : List Block) : Prop := ∃ h ts, Block.dynamic h ts ∈ blocks

variable {E : Fail → Prop} (hE : Tol E) {L LB : Nat → Prop} (P : Pred H) (plain : Array Nat)

section tokens
include hE

/-- the `max_chain` counter of `calculate_hops` bounds the hop count, whatever the candidates are -/
theorem hopsWalk_post (pos maxDist len target : Nat) :
    ∀ (cands : List Nat) (hops maxChain : Nat), 1 ≤ maxChain →
      Post E (fun h => h ≤ hops + maxChain)
        (hopsWalk plain pos maxDist len target cands hops maxChain) := by
  intro cands
  induction cands with
  | nil => intro _ _ _; exact Post.tolErr hE
  | cons d rest ih =>
    intro hops maxChain hm
    rw [hopsWalk]
    refine Post.ite (fun _ => Post.tolErr hE) fun _ => ?_
    dsimp only
    have hh : (if matchAt plain pos len d = true then hops + 1 else hops) ≤ hops + 1 := by
      split <;> omega
    generalize (if matchAt plain pos len d = true then hops + 1 else hops) = hops' at hh ⊢
    refine Post.ite (fun _ => Post.ite (fun _ => .ok _ (by omega)) fun _ => Post.tolErr hE) fun _ => ?_
    refine Post.ite (fun _ => Post.tolErr hE) fun _ => ?_
    exact (ih hops' (maxChain - 1) (by omega)).mono (fun _ h => h) (fun h hle => by omega)

theorem calcHops_post (s : PState H) (len dist : Nat) :
    Post E (fun h => h ≤ 65535) (calcHops P plain s len dist) := by
  unfold calcHops
  exact Post.ite (fun _ => Post.tolErr hE) fun _ =>
    (hopsWalk_post hE plain _ _ _ _ _ 0 65535 (by omega)).mono (fun _ h => h) (fun h hh => by omega)

theorem encRefTail_post (c : Nat) (f : Bool) (plen pdist : Nat) (s2 : PState H) (len dist : Nat) (irr : Bool)
    (hc : c < 7) (hl : L plen) :
    Post E (fun p => TokOps L (.ref len dist irr) p.1 ∧ p.2.pending = s2.pending)
      (encRefTail P plain [Op.mis c f] plen pdist s2 len dist irr) := by
  unfold encRefTail
  dsimp only
  -- the three branches differ in the context `cd` and the hop count `h`
  have hfin : ∀ cd h, cd < 10 → h ≤ 65535 →
      Post E (fun p => TokOps L (.ref len dist irr) p.1 ∧ p.2.pending = s2.pending)
        (.ok ([Op.mis c f] ++ [Op.corr C_LEN (encDiff plen len)] ++ [Op.corr cd h] ++
          (if len = 258 then [Op.mis M_IRREGULAR258 irr] else []), commit P plain s2 (.ref len dist irr))) :=
    fun cd h hcd hh => .ok _ ⟨.ref len dist irr c f plen cd h hc hl hcd hh, rfl⟩
  by_cases h1 : plen ≠ len
  · rw [if_pos h1]
    exact (calcHops_post hE P plain s2 len dist).seq fun h hh => hfin _ h (by decide) hh
  rw [if_neg h1]
  by_cases h2 : dist ≠ pdist
  · rw [if_pos h2]
    exact (calcHops_post hE P plain s2 len dist).seq fun h hh => hfin _ h (by decide) hh
  rw [if_neg h2]
  exact hfin _ 0 (by decide) (by omega)

variable (hL : PredL L P) (hP : ∀ s e, P.repredictTok plain s = .error e → E e)
include hL hP

theorem encTok_post (s : PState H) (t : Token) (hpend : PendL L s.pending) :
    Post E (fun p => TokOps L t p.1 ∧ PendL L p.2.pending) (encTok P plain s t) := by
  unfold encTok
  have hpr := hL.predict plain s hpend
  rcases hp : P.predictTok plain s with ⟨pt, pend⟩
  rw [hp] at hpr
  obtain ⟨hpt, hpend1⟩ := hpr
  dsimp only at hpt hpend1 ⊢
  cases t with
  | lit b =>
    cases pt with
    | lit => exact .ok _ ⟨.lit b _ _ (by decide), hpend1⟩
    | ref l d => exact .ok _ ⟨.lit b _ _ (by decide), hpend1⟩
  | ref len dist irr =>
    dsimp only
    refine Post.seq (Q := fun (q : List Op × Nat × Nat × PState H) =>
      ∃ c f, c < 7 ∧ q.1 = [Op.mis c f] ∧ L q.2.1 ∧ PendL L q.2.2.2.pending) ?_ ?_
    · cases pt with
      | lit =>
        dsimp only
        cases hr : P.repredictTok plain { s with pending := pend } with
        | error e => exact .error _ (hP _ e hr)
        | ok ld =>
          exact .ok _ ⟨_, _, by decide, rfl, hL.repredict plain _ ld.1 ld.2 hpend1 hr, PendL.none⟩
      | ref l d => exact .ok _ ⟨_, _, by decide, rfl, hpt l d rfl, hpend1⟩
    · rintro ⟨_, plen, pdist, s2⟩ ⟨c, f, hc, rfl, hl, hp2⟩
      exact (encRefTail_post hE P plain c f plen pdist s2 len dist irr hc hl).mono (fun _ h => h)
        (fun p hp => ⟨hp.1, hp.2 ▸ hp2⟩)

theorem encToks_post : ∀ (ts : List Token) (s : PState H), PendL L s.pending →
    Post E (fun p => Pieces (TokOps L) ts p.1 ∧ PendL L p.2.pending) (encToks P plain s ts) := by
  intro ts
  induction ts with
  | nil => intro s hp; exact .ok _ ⟨.nil, hp⟩
  | cons t ts ih =>
    intro s hp
    rw [encToks]
    refine (encTok_post hE P plain hL hP s t hp).seq ?_
    intro ⟨a, s1⟩ ⟨ha, hp1⟩
    refine (ih s1 hp1).seq ?_
    intro ⟨b, s2⟩ ⟨hb, hp2⟩
    exact .ok _ ⟨.cons ha hb, hp2⟩

/-- `ht` is what is known of the tree part: `pure []` for a fixed block, `encTree` for a dynamic one -/
theorem encTokBlock_post (s : PState H) (btn : Nat) (ts : List Token) (last : Bool) (tree : R (List Op))
    (T : List Op → Prop) (hn : ts.length < 2 ^ 32 - 1) (hp : PendL L s.pending) (ht : Post E T tree) :
    Post E (fun p => TokBlockOps L btn ts T p.1) (encTokBlock P plain s btn ts last tree) := by
  unfold encTokBlock
  dsimp only
  rw [if_neg (by omega)]
  refine (encToks_post hE P plain hL hP ts s hp).seq ?_
  intro ⟨tokOps, s1⟩ ⟨htok, _⟩
  refine ht.seq ?_
  intro treeOps htree
  rw [← apply_ite (Op.corr C_TOKEN_COUNT)]
  exact .ok _ ⟨_, tokOps, treeOps, rfl, by split <;> omega, htok, htree⟩

end tokens

theorem predictCodeType_le (syms : List Nat) (prev : Option Nat) : predictCodeType syms prev ≤ 18 := by
  unfold predictCodeType
  simp only
  split
  · split
    · omega
    · split <;> omega
  · split
    · split <;> omega
    · omega

/-- a predicted datum is a symbol (0 if there is none), or a repeat count (at most 138) -/
theorem predictCodeData_L (h138 : ∀ n, n ≤ 138 → LB n) (syms : List Nat) (kind : Nat)
    (hs : ∀ x ∈ syms, LB x) : LB (predictCodeData syms kind) := by
  unfold predictCodeData
  dsimp only
  split
  · cases syms with
    | nil => exact h138 0 (by omega)
    | cons a l => exact hs a (List.mem_cons_self ..)
  · have h1 := run_length_le (· == syms.headD 0) syms 6 3
    have h2 := run_length_le (· == 0) syms 10 3
    have h3 := run_length_le (· == 0) syms 138 11
    refine h138 _ ?_
    split
    · omega
    · split <;> omega

theorem resizeTo_L (h0 : LB 0) (l : List Nat) (h : ∀ x ∈ l, LB x) (n : Nat) : ∀ x ∈ resizeTo l n, LB x := by
  intro x hx
  rcases List.mem_append.mp hx with hx | hx
  · exact h x (List.mem_of_mem_take hx)
  · rw [(List.mem_replicate.mp hx).2]
    exact h0

theorem CountOps.of_decide (ctx bits v : Nat) (c : Prop) [Decidable c] :
    CountOps ctx bits v ([Op.mis ctx (decide c)] ++ if c then [Op.value bits v] else []) := by
  by_cases hc : c
  · exact Or.inr (by simp [hc])
  · exact Or.inl (by simp [hc])

section header
include hE

theorem encLdTrees_post (h138 : ∀ n, n ≤ 138 → LB n) :
    ∀ (items : List RleItem) (syms : List Nat) (prev : Option Nat),
    (items.map itemSpan).sum = syms.length → (∀ x ∈ syms, LB x) →
    Post E (Pieces (ItemOps LB) items) (encLdTrees syms prev items) := by
  intro items
  induction items with
  | nil => intro syms prev _ _; exact .ok _ .nil
  | cons it rest ih =>
    intro syms prev hsum hs
    simp only [List.map_cons, List.sum_cons] at hsum
    rw [encLdTrees]
    split
    · exact Post.tolErr hE
    · split
      · omega
      · dsimp only
        refine (ih (syms.drop (itemSpan it)) _ (by rw [List.length_drop]; omega)
          (fun x hx => hs x (List.mem_of_mem_drop hx))).seq ?_
        intro r hr
        have hpt := predictCodeType_le syms prev
        have hpd := predictCodeData_L h138 syms it.kind hs
        by_cases hk : it.kind ≠ 0
        · rw [if_pos hk]
          exact .ok _ (.cons (a := [_, _]) ⟨_, _, _, hpt, hpd, by decide, rfl⟩ hr)
        · rw [if_neg hk]
          exact .ok _ (.cons (a := [_, _]) ⟨_, _, _, hpt, hpd, by decide, rfl⟩ hr)

theorem encTree_post (hB : LenL LB P) (h : Header) (hv : HeaderValid h) (freq : List Nat × List Nat) :
    Post E (TreeOps LB h) (encTree P h freq) := by
  have h0 := hB.small 0 (by omega)
  have hfit : ∀ freq n, ∀ x ∈ (if (P.calcBitLengths freq 15).length ≠ n
      then resizeTo (P.calcBitLengths freq 15) n else P.calcBitLengths freq 15), LB x := by
    intro freq n
    split
    · exact resizeTo_L h0 _ (hB.bitlen freq 15 (by omega)) n
    · exact hB.bitlen freq 15 (by omega)
  unfold encTree
  dsimp only
  -- `HeaderValid.items_sum`: the `assert_eq!` on the total run length cannot fire
  rw [if_neg (by rw [List.length_append, Tree.fit_length, Tree.fit_length]; exact not_not_intro hv.items_sum)]
  refine (encLdTrees_post hE hB.small h.items _ none
    (by rw [List.length_append, Tree.fit_length, Tree.fit_length]; exact hv.items_sum)
    (fun x hx => (List.mem_append.mp hx).elim (hfit _ _ x) (hfit _ _ x))).seq ?_
  intro c hc
  refine .ok _ ⟨_, _, c, _, _, rfl, CountOps.of_decide .., CountOps.of_decide .., hc, ?_,
    resizeTo_L h0 _ (hB.bitlen _ 7 (by omega)) _⟩
  split
  · exact Or.inr rfl
  · exact Or.inl rfl

end header

section blocks
variable (hL : PredL L P) (hP : ∀ s e, P.repredictTok plain s = .error e → E e)
include hE hL hP

theorem encBlock_post (s : PState H) (b : Block) (last : Bool) (hv : BlockSmall b)
    (hB : HasDynamic [b] → LenL LB P) :
    Post E (fun p => BlockOps L LB b p.1) (encBlock P plain s b last) := by
  cases b with
  | stored pad data => exact .ok _ rfl
  | fixed ts => exact encTokBlock_post hE P plain hL hP _ _ ts last _ _ hv.2 PendL.none (.ok _ rfl)
  | dynamic h ts =>
    exact encTokBlock_post hE P plain hL hP _ _ ts last _ _ hv.2.1 PendL.none
      (encTree_post hE P (hB ⟨h, ts, List.mem_cons_self ..⟩) h hv.2.2 _)

theorem encBlocks_post : ∀ (blocks : List Block) (s : PState H), (∀ b ∈ blocks, BlockSmall b) →
    (HasDynamic blocks → LenL LB P) →
    Post E (fun p => Pieces (EofBlockOps L LB) blocks p.1 ∧ p.2.pos = blocksEnd s.pos blocks)
      (encBlocks P plain s blocks) := by
  intro blocks
  induction blocks with
  | nil => intro s _ _; exact .ok _ ⟨.nil, rfl⟩
  | cons b rest ih =>
    intro s hv hB
    have hB1 : HasDynamic [b] → LenL LB P := fun ⟨h, ts, hm⟩ =>
      hB ⟨h, ts, List.mem_cons.mpr (Or.inl (List.mem_singleton.mp hm))⟩
    have hB2 : HasDynamic rest → LenL LB P := fun ⟨h, ts, hm⟩ => hB ⟨h, ts, List.mem_cons_of_mem _ hm⟩
    rw [encBlocks]
    dsimp only
    refine (Post.and_ok (encBlock_post hE P plain hL hP s b rest.isEmpty (hv b (List.mem_cons_self ..)) hB1)
      (fun p hp => encBlock_pos hp)).seq ?_
    intro ⟨a, s1⟩ ⟨ha, hp1⟩
    refine (ih s1 (fun b' h' => hv b' (List.mem_cons_of_mem _ h')) hB2).seq ?_
    intro ⟨r, s2⟩ ⟨hr, hp2⟩
    exact .ok _ ⟨.cons ⟨_, a, ha, rfl⟩ hr, by rw [hp2, hp1]; rfl⟩

theorem encStream_ops_post (blocks : List Block) (hB : HasDynamic blocks → LenL LB P) (pad : Nat)
    (hv : StreamValid plain blocks) : Post E (StreamOps L LB blocks pad) (encStream P plain blocks pad) := by
  obtain ⟨_, hvb, hend⟩ := hv
  unfold encStream
  dsimp only
  refine (encBlocks_post hE P plain hL hP blocks ⟨P.init, none, 0, 0⟩
    (blocksSmall_of_valid plain blocks 0 hvb) hB).seq ?_
  intro ⟨ops, s⟩ ⟨hops, hpos⟩
  -- the blocks end where the plaintext ends, so `assert!(input_eof())` holds
  have he : ¬ ((!s.eof plain) = true) := by
    simp [PState.eof, show s.pos = plain.size from hpos.trans hend]
  rw [if_neg he]
  exact .ok _ ⟨ops, hops, rfl⟩

end blocks

theorem encStream_post (hE : Tol E) (P : Pred H) (plain : Array Nat) (blocks : List Block) (pad : Nat)
    (hv : StreamValid plain blocks)
    (hP : ∀ s e, P.repredictTok plain s = .error e → E e) :
    Post E (fun _ => True) (encStream P plain blocks pad) :=
  (encStream_ops_post hE (LB := fun _ => True) P plain (PredL.any P) hP blocks
    (fun _ => LenL.any P) pad hv).mono (fun _ h => h) (fun _ _ => trivial)

/-- producing corrections for a valid stream has no panic path, whatever the predictor answers
    (as long as the predictor's own re-prediction does not panic) -/
theorem encStream_no_panic (P : Pred H) (plain : Array Nat) (blocks : List Block) (pad : Nat)
    (hv : StreamValid plain blocks)
    (hP : ∀ s m, P.repredictTok plain s ≠ .error (.panic m)) (m : String) :
    encStream P plain blocks pad ≠ .error (.panic m) := by
  intro h
  have := encStream_post Tol.np P plain blocks pad hv (fun s e he m hm => hP s m (by rw [he, hm]))
  rw [h] at this
  exact Post.error_iff.mp this m rfl

/-- … and `Err(PreflateError)` is its ONLY failure (no panic, no exhausted loop bound) when that is
    so for the predictor's re-prediction -/
theorem encStream_only_err (P : Pred H) (plain : Array Nat) (blocks : List Block) (pad : Nat)
    (hv : StreamValid plain blocks)
    (hP : ∀ s e, P.repredictTok plain s = .error e → e = .err) (e : Fail)
    (h : encStream P plain blocks pad = .error e) : e = .err := by
  have := encStream_post Tol.onlyErr P plain blocks pad hv hP
  rw [h] at this
  cases this with
  | error _ he => exact he

theorem encStream_ops (hL : PredL L P) (blocks : List Block) (hB : HasDynamic blocks → LenL LB P) (pad : Nat)
    (hv : StreamValid plain blocks) (ops : List Op) (he : encStream P plain blocks pad = .ok ops) :
    StreamOps L LB blocks pad ops := by
  have h := encStream_ops_post Tol.any P plain hL (fun _ _ _ => trivial) blocks hB pad hv
  rw [he] at h
  exact Post.ok_iff.mp h

end Preflate.Proofs

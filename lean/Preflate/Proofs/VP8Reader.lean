/-
VP8 bool coder, decoder side: the 64-bit window of the reader equals (code prefix − exact low end of
the writer), aligned at bit 56 (`DInv`); `fill` and `getSplit` preserve this and `getSplit` returns
the encoded bit.
-/
import Preflate.Proofs.VP8Finish
namespace Preflate.Proofs
open Preflate Preflate.VP8

/-- the first `p` bytes of `out` as a big-endian number -/
def pref (out : Array UInt8) (p : Nat) : Nat := bval (out.toList.take p)

theorem pref_succ (out : Array UInt8) (p : Nat) (h : p < out.size) :
    pref out (p + 1) = pref out p * 256 + (out.getD p 0).toNat := by
  have hl : p < out.toList.length := by simpa using h
  simp only [pref]
  rw [List.take_succ_eq_append_getElem hl, bval_append_single]
  congr 2
  rw [Array.getD_eq_getD_getElem?]
  simp [h]

theorem pref_eq_div (out : Array UInt8) (p : Nat) :
    pref out p = aval out / 2 ^ (8 * (out.size - p)) := by
  simp only [pref, aval]; rw [bval_take, Nat.pow_mul]; simp

theorem or_eq_add (x y a : Nat) (hx : 2 ^ a ∣ x) (hy : y < 2 ^ a) : x ||| y = x + y := by
  obtain ⟨q, rfl⟩ := hx
  exact (Nat.two_pow_add_eq_or_of_lt hy q).symm

/-- the window `value` holds the first `pos` bytes of `out`, minus `V`, above `a` still-empty low
    bits -/
structure Win (out : Array UInt8) (V value a pos : Nat) : Prop where
  a_le : a ≤ 64
  pos_le : pos ≤ out.size
  val : value + V * 2 ^ 56 = pref out pos * 2 ^ a
  dvd : 2 ^ a ∣ value

/-- the fill loop; `a = 56 - count` -/
theorem fillLoop_spec (out : Array UInt8) (V : Nat) : ∀ (fuel value a pos : Nat),
    Win out V value a pos → a < 8 * fuel + 8 →
    ∃ (v' a' p' : Nat), Reader.fillLoop fuel value (56 - (a:Int)) ((a:Int) - 8) out pos = (v', 56 - (a':Int), p') ∧
      Win out V v' a' p' ∧ 8 * p' + a' = 8 * pos + a ∧ (a' < 8 ∨ p' = out.size) := by
  intro fuel
  induction fuel with
  | zero => intro value a pos hw hf; exact ⟨value, a, pos, rfl, hw, rfl, Or.inl (by omega)⟩
  | succ fuel ih =>
    intro value a pos hw hf
    obtain ⟨ha, hp, hv, hd⟩ := hw
    rw [Reader.fillLoop]
    by_cases hs : (a:Int) - 8 ≥ 0
    · by_cases hpos : pos < out.size
      · rw [if_pos hs, if_pos hpos]
        rw [show (56 - (a:Int)) + 8 = 56 - ((a - 8 : Nat) : Int) by omega,
          show (a:Int) - 8 - 8 = ((a - 8 : Nat) : Int) - 8 by omega,
          show ((a:Int) - 8).toNat = a - 8 by omega]
        have hpa : (2:Nat) ^ a = 2 ^ (a - 8) * 2 ^ 8 := by rw [← Nat.pow_add]; congr 1; omega
        -- the new byte goes below the bits already there
        have hor : value ||| (out.getD pos 0).toNat <<< (a - 8)
            = value + (out.getD pos 0).toNat * 2 ^ (a - 8) := by
          rw [Nat.shiftLeft_eq, or_eq_add _ _ a hd]
          rw [hpa, Nat.mul_comm]
          exact Nat.mul_lt_mul_of_pos_left (UInt8.toNat_lt _) (Nat.two_pow_pos _)
        rw [hor]
        obtain ⟨v', a', p', g1, g2, g3, g4⟩ :=
          ih (value + (out.getD pos 0).toNat * 2 ^ (a - 8)) (a - 8) (pos + 1)
            ⟨by omega, hpos, by rw [pref_succ out pos hpos, Nat.add_right_comm, hv, hpa]; ring,
              Nat.dvd_add (Nat.dvd_trans (Nat.pow_dvd_pow 2 (by omega)) hd) (Nat.dvd_mul_left _ _)⟩
            (by omega)
        exact ⟨v', a', p', g1, g2, by omega, g4⟩
      · rw [if_pos hs, if_neg hpos]
        exact ⟨value, a, pos, rfl, ⟨ha, hp, hv, hd⟩, rfl, Or.inr (by omega)⟩
    · rw [if_neg hs]
      exact ⟨value, a, pos, rfl, ⟨ha, hp, hv, hd⟩, rfl, Or.inl (by omega)⟩

/-- the reader `r` is positioned at the writer state `w` on the byte string `out`: its window is the
    code prefix minus the exact low end of `w`, with `a = 56 - count` -/
structure DInv (r : Reader) (w : Writer) (out : Array UInt8) : Prop where
  inp : r.input = out
  rng : r.range = w.range
  win : ∃ a : Nat, r.count = 56 - (a : Int) ∧ 8 * r.pos + a = WT w + 64 ∧ Win out (WV w) r.value a r.pos

theorem fill_spec (r : Reader) (w : Writer) (out : Array UInt8) (h : DInv r w out)
    (hlen : WT w + 8 ≤ 8 * out.size) : DInv r.fill w out ∧ 0 ≤ r.fill.count := by
  obtain ⟨a, hc, hn, hwin⟩ := h.win
  obtain ⟨v', a', p', g1, g2, g3, g4⟩ := fillLoop_spec out (WV w) 9 r.value a r.pos hwin (by have := hwin.a_le; omega)
  have hfill : r.fill = { r with value := v', count := 56 - (a':Int), pos := p' } := by
    unfold Reader.fill
    simp only [show (56:Int) - (r.count + 8) = (a : Int) - 8 by omega]
    rw [h.inp, hc, g1]
  rw [hfill]
  refine ⟨⟨h.inp, h.rng, a', rfl, by simp only; omega, g2⟩, ?_⟩
  have := g2.pos_le
  rcases g4 with g | g
  · simp only; omega
  · simp only; omega

/-- the renormalisation after a decision keeps reader and writer in step: the writer has narrowed its
    interval to the part of width `r1` at offset `x`, the reader has taken `x` off its window -/
theorem renorm_spec (r : Reader) (w w' : Writer) (out : Array UInt8) (x r1 v1 : Nat)
    (h : DInv r w out) (hc0 : 0 ≤ r.count) (st : Step w w' x r1) (hr1 : 0 < r1) (hr2 : r1 < 256)
    (hv : v1 + x * 2 ^ 56 = r.value) (hlt : v1 < r1 * 2 ^ 56) :
    DInv { r with value := u64 (v1 <<< (lz32 r1 - 24)), range := u32 (r1 <<< (lz32 r1 - 24)),
                  count := r.count - ((lz32 r1 - 24 : Nat) : Int) } w' out := by
  obtain ⟨l1, l2, l3⟩ := lz8_spec r1 hr1 hr2
  obtain ⟨a, hc, hn, ha, hp, hval, hd⟩ := h.win
  rw [lz32_eq r1 hr1 hr2, Nat.shiftLeft_eq, Nat.shiftLeft_eq]
  have e_v : u64 (v1 * 2 ^ lz8 r1) = v1 * 2 ^ lz8 r1 := by
    refine Nat.mod_eq_of_lt (Nat.lt_of_lt_of_le (Nat.mul_lt_mul_of_pos_right hlt (Nat.two_pow_pos _)) ?_)
    rw [Nat.mul_right_comm]
    exact Nat.le_trans (Nat.mul_le_mul_right _ l3) (by decide)
  have e_r : u32 (r1 * 2 ^ lz8 r1) = r1 * 2 ^ lz8 r1 := Nat.mod_eq_of_lt (by omega)
  rw [e_v, e_r]
  refine ⟨h.inp, st.range_eq.symm, a + lz8 r1, by simp only; omega, by rw [st.WT_eq]; simp only; omega,
    by omega, hp, ?_, ?_⟩
  · rw [st.WV_eq, Nat.pow_add, ← Nat.mul_assoc, ← hval, ← hv]
    ring
  · rw [Nat.pow_add]
    exact Nat.mul_dvd_mul ((Nat.dvd_add_left (Nat.dvd_trans (Nat.pow_dvd_pow 2 (by omega))
      (Nat.dvd_mul_left _ _))).1 (hv ▸ hd)) (Nat.dvd_refl _)

theorem getSplit_spec (r : Reader) (w : Writer) (out : Array UInt8) (b : Bool) (s : Nat)
    (h : DInv r w out) (hc0 : 0 ≤ r.count) (hw : WInv w) (hs : 0 < s ∧ s < w.range)
    (hf : Final (w.putSplit b s) out) :
    ∃ r', r.getSplit s = (b, r') ∧ DInv r' (w.putSplit b s) out := by
  have st := putSplit_spec w b s hw hs
  obtain ⟨δ, hsz, hlo, hhi⟩ := st.within hf
  have hrhi := hw.r_hi
  -- the window against the code value: `X` is below the window iff `WV w + X` is below the code
  have key : ∀ X, X * 2 ^ 56 ≤ r.value ↔ (WV w + X) * 2 ^ δ ≤ aval out := by
    intro X
    obtain ⟨a, hc, hn, ha, hp, hval, hd⟩ := h.win
    have := cmp_iff (WV w + X) (aval out) (8 * (out.size - r.pos)) (56 - a) (by omega)
    rw [← pref_eq_div, show 56 - (56 - a) = a by omega, ← hval,
      show 56 - a + 8 * (out.size - r.pos) = δ by omega, Nat.add_mul] at this
    rw [← this]
    generalize (2:Nat) ^ 56 = P
    omega
  rw [Nat.add_assoc] at hhi
  have h1 := (key _).2 hlo
  have h2 := Nat.lt_of_not_le (mt (key _).1 (Nat.not_le_of_lt hhi))
  unfold Reader.getSplit
  simp only [Nat.shiftLeft_eq s]
  cases b
  · simp only [Bool.false_eq_true, if_false, Nat.zero_mul, Nat.zero_add] at st h1 h2
    simp only [decide_eq_false (Nat.not_le_of_lt h2), Bool.false_eq_true, if_false]
    exact ⟨_, rfl, renorm_spec r w _ out 0 s r.value h hc0 st hs.1 (by omega) (by omega) h2⟩
  · simp only [if_true, Nat.add_mul] at st h1 h2
    simp only [decide_eq_true h1, h.rng, if_true]
    exact ⟨_, rfl, renorm_spec r w _ out s (w.range - s) _ h hc0 st (by omega) (by omega)
      (Nat.sub_add_cancel h1) (Nat.sub_lt_left_of_lt_add h1 h2)⟩

end Preflate.Proofs

/-
The u16 position arithmetic of the hash chains never overflows: at every token start the internal
position `pos - totalShift` is at most one maximal token past the reshift threshold (`ChainInv`:
0xfe08 + 257), and the update calls of one token restore that (`chain_step_safe`).
-/
import Preflate.Proofs.PolicyCalls
namespace Preflate.Proofs
open Preflate Preflate.Chains

theorem update_totalShift (p : Params) (plain : Array Nat) (c : Chain) (pos0 len : Nat) :
    (Chain.update p plain c pos0 len).totalShift = shiftStep c.totalShift pos0 := by
  unfold Chain.update shiftStep
  by_cases h : (pos0 : Int) - c.totalShift ≥ 0xfe08 <;> by_cases h3 : p.hashAlg = 3 <;> simp [h, h3]

/-- the abstraction is faithful: `policyUpdate` changes `totalShift` exactly as the reshift tests of
    its update calls do -/
theorem policyUpdate_totalShift (p : Params) (plain : Array Nat) (c : Chain) (pos len : Nat) :
    (policyUpdate p plain c pos len).totalShift = shiftAfter c.totalShift (updateCalls p pos len) := by
  rw [policyUpdate_eq_calls]
  unfold shiftAfter
  generalize updateCalls p pos len = calls
  induction calls generalizing c with
  | nil => rfl
  | cons q qs ih => rw [List.foldl_cons, List.foldl_cons, ih, update_totalShift]

/-- invariant at token starts: the internal position is at most one maximal token past the reshift
    threshold (0xfe08 + 257) -/
def ChainInv (shift : Int) (pos : Nat) : Prop :=
  0 ≤ (pos : Int) - shift ∧ (pos : Int) - shift ≤ 65289

theorem ChainInv.iterSafe {shift : Int} {pos : Nat} (h : ChainInv shift pos) : IterSafe shift pos :=
  ⟨h.1, by have := h.2; omega⟩

/-- the update calls of one token: none (no hash algorithm, or the 4 KiB policy at a page end), or
    one of three shapes starting at the token's position -/
theorem updateCalls_shape (p : Params) (pos len : Nat) :
    (updateCalls p pos len = [] ∧
      (p.hashAlg = 0 ∨ p.addPolicy = 3 ∧ len ≠ 1 ∧ ¬ (pos &&& 4095) < 4093)) ∨
    updateCalls p pos len = [(pos, 1)] ∨ updateCalls p pos len = [(pos, len)] ∨
    len ≠ 1 ∧ updateCalls p pos len = [(pos, 1), (pos + len - 1, 1)] := by
  unfold updateCalls
  by_cases hh : p.hashAlg = 0
  · exact .inl ⟨if_pos hh, .inl hh⟩
  by_cases h1 : len = 1
  · simp [hh, h1]
  simp only [hh, h1, if_false]
  generalize p.addPolicy = a
  match a with
  | 0 => simp
  | 1 => by_cases hl : len ≤ p.addLimit <;> simp [hl]
  | 2 => by_cases hl : len ≤ p.addLimit <;> simp [hl, h1]
  | 3 => by_cases hl : (pos &&& 4095) < 4093 <;> simp [hl, h1]
  | n + 4 => by_cases hl : is32kBoundary len pos <;> simp [hl, h1]

theorem shiftStep_cases (s : Int) (q : Nat) :
    (shiftStep s q = s + 0x7e00 ∧ (q : Int) - s ≥ 0xfe08) ∨ (shiftStep s q = s ∧ (q : Int) - s < 0xfe08) := by
  unfold shiftStep
  by_cases h : (q : Int) - s ≥ 0xfe08
  · left; rw [if_pos h]; exact ⟨rfl, by omega⟩
  · right; rw [if_neg h]; exact ⟨rfl, by omega⟩

theorem callSafe_step (shift : Int) (q n : Nat) (h0 : 0 ≤ (q : Int) - shift)
    (h1 : (q : Int) - shift ≤ 65289) (hn : n ≤ 258) :
    CallSafe shift (q, n) ∧ 0 ≤ (q : Int) - shiftStep shift q ∧ (q : Int) - shiftStep shift q < 65032 := by
  unfold CallSafe
  dsimp only
  rcases shiftStep_cases shift q with ⟨e, _⟩ | ⟨e, _⟩
  all_goals
    rw [e]
    omega

/-- One token from a token start within `ChainInv`: the chain walk at the start and every update call
    the add policy makes for the token are in range, and the next token start is within `ChainInv`
    again. Only the shift is followed (`shiftAfter`), not the tables: those are `TableInv` in
    Proofs/ChainsSafe.lean. -/
theorem chain_step_safe (p : Params) (hh : p.hashAlg ≠ 0) (shift : Int) (pos len : Nat)
    (hinv : ChainInv shift pos) (hl : 1 ≤ len ∧ len ≤ 258)
    (h4k : p.addPolicy = 3 → len > 1 → (pos &&& 4095) < 4093) :
    IterSafe shift pos ∧ CallsSafe shift (updateCalls p pos len) ∧
    ChainInv (shiftAfter shift (updateCalls p pos len)) (pos + len) := by
  refine ⟨hinv.iterSafe, ?_⟩
  obtain ⟨hi0, hi1⟩ := hinv
  -- the call at the token start (one byte or the whole token), and the one at its last byte
  obtain ⟨c1, a1, b1⟩ := callSafe_step shift pos 1 hi0 hi1 (by omega)
  obtain ⟨c2, _, _⟩ := callSafe_step shift pos len hi0 hi1 hl.2
  obtain ⟨c3, a3, b3⟩ := callSafe_step (shiftStep shift pos) (pos + len - 1) 1 (by omega) (by omega) (by omega)
  rcases updateCalls_shape p pos len with ⟨_, h | h⟩ | h | h | ⟨_, h⟩
  · exact absurd h hh
  · exact absurd (h4k h.1 (by omega)) h.2.2
  all_goals
    rw [h]
    unfold ChainInv shiftAfter
    dsimp only [List.foldl]
  · exact ⟨⟨c1, trivial⟩, by omega⟩
  · exact ⟨⟨c2, trivial⟩, by omega⟩
  · exact ⟨⟨c1, c3, trivial⟩, by omega⟩

theorem chain_run_safe (p : Params) (hh : p.hashAlg ≠ 0) (lens : List Nat) :
    ∀ (shift : Int) (pos : Nat), ChainInv shift pos →
      (∀ l ∈ lens, 1 ≤ l ∧ l ≤ 258) → (p.addPolicy = 3 → NoRefAt4k pos lens) →
      RunSafe p shift pos lens := by
  induction lens with
  | nil => intros; trivial
  | cons len rest ih =>
    intro shift pos hinv hl h4k
    have hs := chain_step_safe p hh shift pos len hinv (hl len (by simp))
      (fun h3 => (h4k h3).1)
    exact ⟨hs.1, hs.2.1, ih _ _ hs.2.2 (fun l hm => hl l (by simp [hm]))
      (fun h3 => (h4k h3).2)⟩

/-- For every parameter vector with a hash algorithm (`HashAlgorithm::None` never touches a chain),
    every sequence of token lengths 1..258 starting at position 0 with the initial shift -8: no
    `from_absolute` and no `inc` ever leaves the u16 range. For the 4 KiB-boundary policy the
    estimator's own side condition is needed (no reference starts in the last three positions of a
    4 KiB page). -/
theorem chain_positions_in_u16_partial (p : Params) (hh : p.hashAlg ≠ 0) (lens : List Nat)
    (hl : ∀ l ∈ lens, 1 ≤ l ∧ l ≤ 258)
    (h4k : p.addPolicy = 3 → NoRefAt4k 0 lens) :
    RunSafe p (-8) 0 lens :=
  chain_run_safe p hh lens (-8) 0 (by unfold ChainInv; omega) hl h4k

/-- without a hash algorithm no update call (hence no reshift test) is ever made -/
theorem runSafe_noHash_iter (p : Params) (h0 : p.hashAlg = 0) (n : Nat) :
    ∀ (shift : Int) (pos : Nat), RunSafe p shift pos (List.replicate (n + 1) 258) →
      IterSafe shift (pos + 258 * n) := by
  induction n with
  | zero => intro shift pos h; exact h.1
  | succ n ih =>
    intro shift pos h
    have h' := h.2.2
    have e : updateCalls p pos 258 = [] := by simp [updateCalls, h0]
    rw [e] at h'
    have := ih _ _ h'
    simp only [shiftAfter, List.foldl] at this
    have e2 : pos + 258 + 258 * n = pos + 258 * (n + 1) := by omega
    rwa [e2] at this

/-- the hypothesis `p.hashAlg ≠ 0` of `chain_positions_in_u16_partial` cannot be dropped: for
    `HashAlgorithm::None` the abstract run leaves the u16 range at the 255th maximal token (position
    65532 with the shift still -8). In the Rust this holder never iterates or updates a chain. -/
theorem runSafe_fails_without_hash (p : Params) (h0 : p.hashAlg = 0) :
    ¬ RunSafe p (-8) 0 (List.replicate 255 258) := by
  intro h
  have := runSafe_noHash_iter p h0 254 (-8) 0 h
  unfold IterSafe at this
  omega

/-- the statement without `p.hashAlg ≠ 0` is false (witness: hashAlg = 0, addPolicy = 0, 255 tokens
    of length 258) -/
theorem chain_positions_in_u16_unrestricted_false :
    ¬ ∀ (p : Params) (lens : List Nat), (∀ l ∈ lens, 1 ≤ l ∧ l ≤ 258) →
        (p.addPolicy = 3 → NoRefAt4k 0 lens) → RunSafe p (-8) 0 lens := by
  intro h
  let p : Params := { (default : Params) with hashAlg := 0, addPolicy := 0 }
  exact runSafe_fails_without_hash p rfl
    (h p (List.replicate 255 258) (fun l hm => by rw [List.eq_of_mem_replicate hm]; omega)
      (fun h3 => absurd h3 (by decide)))

end Preflate.Proofs

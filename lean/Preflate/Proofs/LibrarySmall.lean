/-
`lib_round_trip` (Proofs/Library.lean) is left with one hypothesis about the stream level, `hcorr`: the
correction bytes of every accepted candidate cut out of the file are below 2^32. Proofs/CorrBound.lean
bounds them: at most 224 bytes per byte of the candidate, plus 202 (`lib_corr_size_le`). A candidate is
no longer than the file (`Cand`), so `hcorr` holds whenever 224 * f.length + 202 < 2^32 — in
particular for every file below 16 MiB (2^24 bytes; the largest power of two with that property;
the exact threshold is 19 173 960 bytes).
-/
import Preflate.Proofs.CorrBound
import Preflate.Proofs.Library
namespace Preflate.Proofs
open Preflate

theorem lib_hcorr_of_size (f : Bytes) (hf : 224 * f.length + 202 < 2 ^ 32) :
    ∀ d r, Cand f d → libOracle.verified d = .ok r → r.corr.length < 2 ^ 32 := by
  intro d r hc h
  have hd : d.length ≤ f.length := hc.1
  have := lib_corr_size_le d r h
  omega

end Preflate.Proofs

/- C06: the scanner finds embedded streams. For each of the four wrappers of Model/Wrappers.lean the
   signature sits where the scanner looks and the stream behind it is accepted there (`*_at`); how the
   loop gets there and what it returns is `found_at` (ScanLoop). -/
import Preflate.Proofs.ScanWrap
import Preflate.Proofs.ScanLoop
namespace Preflate.Proofs
open Preflate

theorem zlib_at (o : Oracle) (crc : Bytes → Nat) (pre suf s : Bytes) (h1 : Nat) (r : Res)
    (hh : h1 ∈ zlibSecond) (hacc : o.verified (s ++ suf) = .ok r) (hbig : r.plain.length > Gen.MIN_BLOCKSIZE) :
    FoundAt o crc (pre ++ zlibWrap h1 s ++ suf) pre.length pre.length .zlib
      (fun prev => [.literal (pre.length + 2 - prev), .deflate r]) := by
  have hsrc : pre ++ zlibWrap h1 s ++ suf = pre ++ 0x78 :: h1 :: (s ++ suf) := by simp [zlibWrap]
  rw [hsrc]
  refine foundAt_of_cons ?_ fun prev _ => ⟨pre.length + 2 + r.size, ?_⟩
  · simp only [zlibSecond, List.mem_cons, List.not_mem_nil, or_false] at hh
    rcases hh with rfl | rfl | rfl | rfl <;> rfl
  · have hd : (pre ++ 0x78 :: h1 :: (s ++ suf)).drop (pre.length + 2) = s ++ suf := by
      rw [← List.drop_drop, List.drop_left]; rfl
    simp only [scanAt, hd, probe_of_ok hacc, bind, Except.bind, hbig, if_true]

theorem gzip_at (o : Oracle) (crc : Bytes → Nat) (pre suf s : Bytes) (g : GzipFields) (r : Res)
    (hg : g.WF) (hacc : o.verified (s ++ suf) = .ok r) (hbig : r.plain.length > Gen.MIN_BLOCKSIZE) :
    FoundAt o crc (pre ++ gzipHeader g ++ s ++ suf) pre.length pre.length .gzip
      (fun prev => [.literal (pre.length + (gzipHeader g).length - prev), .deflate r]) := by
  obtain ⟨t, ht⟩ : ∃ t, gzipHeader g ++ (s ++ suf) = 0x1f :: 0x8b :: t := ⟨_, rfl⟩
  have hsrc : pre ++ gzipHeader g ++ s ++ suf = pre ++ (gzipHeader g ++ (s ++ suf)) := by
    simp only [List.append_assoc]
  rw [hsrc, ht]
  refine foundAt_of_cons rfl fun prev _ => ⟨pre.length + (gzipHeader g).length + r.size, ?_⟩
  rw [← ht]
  have hd : (pre ++ (gzipHeader g ++ (s ++ suf))).drop (pre.length + (gzipHeader g).length) = s ++ suf := by
    rw [← List.drop_drop, List.drop_left, List.drop_left]
  simp only [scanAt, List.drop_left, probe_of_ok (skipGzipHeader_gzipHeader g hg (s ++ suf)), hd,
    probe_of_ok hacc, bind, Except.bind, hbig, if_true]

theorem zip_at (o : Oracle) (crc : Bytes → Nat) (pre suf s : Bytes) (z : ZipFields) (r : Res)
    (hn : z.name.length < 65536) (hx : z.extra.length < 65536)
    (hacc : o.verified (s ++ suf) = .ok r) (hbig : r.plain.length > Gen.MIN_BLOCKSIZE) :
    FoundAt o crc (pre ++ zipHeader z ++ s ++ suf) pre.length pre.length .zip
      (fun prev => [.literal (pre.length + (zipHeader z).length - prev), .deflate r]) := by
  obtain ⟨t, ht⟩ : ∃ t, zipHeader z ++ (s ++ suf) = 0x50 :: 0x4b :: t := by
    rw [zipHeader_eq, List.append_assoc, List.append_assoc]; exact (zipFixed_fields z _).2.2.2.2.2
  have hsrc : pre ++ zipHeader z ++ s ++ suf = pre ++ (zipHeader z ++ (s ++ suf)) := by
    simp only [List.append_assoc]
  rw [hsrc, ht]
  refine foundAt_of_cons rfl fun prev hp => ⟨pre.length + (zipHeader z).length + r.size, ?_⟩
  rw [← ht]
  have he : pre.length - prev + (zipHeader z).length = pre.length + (zipHeader z).length - prev := by
    omega
  simp only [scanAt, List.drop_left, probe_of_ok (parseZipStream_zipHeader o z (s ++ suf) r hn hx hacc),
    bind, Except.bind, hbig, if_true, he]

/-- the signature "ID" sits 4 bytes into the wrapper, behind the length field of the first chunk -/
theorem idat_at (o : Oracle) (crc : Bytes → Nat) (pre suf s hdr adler : Bytes) (pieces : List Bytes) (r : Res)
    (hp : ∀ p ∈ pieces, p ≠ [] ∧ p.length < 2 ^ 32) (hcrc : ∀ x, crc x < 2 ^ 32)
    (hcat : pieces.flatten = hdr ++ s ++ adler) (hhdr : hdr.length = 2) (had : adler.length = 4)
    (hne : pieces ≠ []) (hend : IdatEnd crc suf)
    (hacc : o.verified s = .ok r) (hfull : r.size = s.length)
    (hbig : (idatWrap crc pieces).length > Gen.MIN_BLOCKSIZE) :
    ∃ c, FoundAt o crc (pre ++ idatWrap crc pieces ++ suf) (pre.length + 4) pre.length .idat
      (fun prev => [.literal (pre.length - prev), .idat c r]) := by
  obtain ⟨c, hc, hct⟩ := parseIdat_idatWrap crc hcrc suf hend pieces hp hne hdr s adler hcat hhdr had
  obtain ⟨p, ps, rfl⟩ := List.exists_cons_of_ne_nil hne
  obtain ⟨t, ht⟩ : ∃ t, idatWrap crc (p :: ps) ++ suf = be32 p.length ++ 73 :: 68 :: t :=
    ⟨65 :: 84 :: (p ++ (be32 (crc (idatTag ++ p)) ++ (idatWrap crc ps ++ suf))), by
      rw [idatWrap_cons]; simp only [pngChunk, idatTag, List.cons_append, List.nil_append, List.append_assoc]⟩
  have hsrc : pre ++ idatWrap crc (p :: ps) ++ suf = pre ++ be32 p.length ++ 73 :: 68 :: t := by
    rw [List.append_assoc, ht, List.append_assoc]
  have hl : (pre ++ be32 p.length).length = pre.length + 4 := by rw [List.length_append]; rfl
  refine ⟨c, ?_⟩
  rw [hsrc, ← hl]
  refine foundAt_of_cons rfl fun prev hp => ⟨pre.length + c.totalChunkLength, ?_⟩
  rw [hl, ← hsrc, List.append_assoc]
  have hg : pre.length + 4 ≥ 4 ∧ pre.length ≥ prev := by omega
  have hcond : c.totalChunkLength > Gen.MIN_BLOCKSIZE ∧ r.size = s.length := ⟨by rw [hct]; exact hbig, hfull⟩
  simp only [scanAt, Nat.add_sub_cancel, if_pos hg, List.drop_left, probe_of_ok hc, probe_of_ok hacc,
    bind, Except.bind, if_pos hcond]

theorem found_zlib (o : Oracle) (crc : Bytes → Nat) (pre suf s : Bytes) (h1 : Nat) (r : Res)
    (hh : h1 ∈ zlibSecond) (hnp : NoPanic o)
    (hacc : o.verified (s ++ suf) = .ok r) (hbig : r.plain.length > Gen.MIN_BLOCKSIZE)
    (hq : Quiet o crc (pre ++ zlibWrap h1 s ++ suf) pre.length pre.length) :
    ∃ before prev after, prev ≤ pre.length ∧
      scan o crc (pre ++ zlibWrap h1 s ++ suf) =
        .ok (before ++ [.literal (pre.length + 2 - prev), .deflate r] ++ after) :=
  found_at (fun d m _ => hnp d m) hq (Nat.le_refl _) (zlib_at o crc pre suf s h1 r hh hacc hbig)

theorem found_gzip (o : Oracle) (crc : Bytes → Nat) (pre suf s : Bytes) (g : GzipFields) (r : Res)
    (hg : g.WF) (hnp : NoPanic o)
    (hacc : o.verified (s ++ suf) = .ok r) (hbig : r.plain.length > Gen.MIN_BLOCKSIZE)
    (hq : Quiet o crc (pre ++ gzipHeader g ++ s ++ suf) pre.length pre.length) :
    ∃ before prev after, prev ≤ pre.length ∧
      scan o crc (pre ++ gzipHeader g ++ s ++ suf) =
        .ok (before ++ [.literal (pre.length + (gzipHeader g).length - prev), .deflate r] ++ after) :=
  found_at (fun d m _ => hnp d m) hq (Nat.le_refl _) (gzip_at o crc pre suf s g r hg hacc hbig)

theorem found_zip (o : Oracle) (crc : Bytes → Nat) (pre suf s : Bytes) (z : ZipFields) (r : Res)
    (hn : z.name.length < 65536) (hx : z.extra.length < 65536) (hnp : NoPanic o)
    (hacc : o.verified (s ++ suf) = .ok r) (hbig : r.plain.length > Gen.MIN_BLOCKSIZE)
    (hq : Quiet o crc (pre ++ zipHeader z ++ s ++ suf) pre.length pre.length) :
    ∃ before prev after, prev ≤ pre.length ∧
      scan o crc (pre ++ zipHeader z ++ s ++ suf) =
        .ok (before ++ [.literal (pre.length + (zipHeader z).length - prev), .deflate r] ++ after) :=
  found_at (fun d m _ => hnp d m) hq (Nat.le_refl _) (zip_at o crc pre suf s z r hn hx hacc hbig)

/-- IDAT: the pieces are non-empty, shorter than 2^32, their concatenation is
    zlib header (2) ++ s ++ Adler-32 (4); what follows is not another chunk of the run (`hend`, `IdatEnd`:
    exactly the conditions under which the scanner's chunk walk stops at the end of the wrapper).
    The signature sits 4 bytes into the wrapper, so quietness is required up to there. -/
theorem found_idat (o : Oracle) (crc : Bytes → Nat) (pre suf s hdr adler : Bytes) (pieces : List Bytes) (r : Res)
    (hp : ∀ p ∈ pieces, p ≠ [] ∧ p.length < 2 ^ 32) (hcrc : ∀ x, crc x < 2 ^ 32)
    (hcat : pieces.flatten = hdr ++ s ++ adler) (hhdr : hdr.length = 2) (had : adler.length = 4)
    (hne : pieces ≠ []) (hnp : NoPanic o)
    (hend : IdatEnd crc suf)
    (hacc : o.verified s = .ok r) (hfull : r.size = s.length)
    (hbig : (idatWrap crc pieces).length > Gen.MIN_BLOCKSIZE)
    (hq : Quiet o crc (pre ++ idatWrap crc pieces ++ suf) (pre.length + 4) pre.length) :
    ∃ before prev after c, prev ≤ pre.length ∧
      scan o crc (pre ++ idatWrap crc pieces ++ suf) =
        .ok (before ++ [.literal (pre.length - prev), .idat c r] ++ after) := by
  obtain ⟨c, hc⟩ := idat_at o crc pre suf s hdr adler pieces r hp hcrc hcat hhdr had hne hend hacc hfull hbig
  obtain ⟨before, prev, after, h1, h2⟩ := found_at (fun d m _ => hnp d m) hq (Nat.le_add_right _ _) hc
  exact ⟨before, prev, after, c, h1, h2⟩

end Preflate.Proofs

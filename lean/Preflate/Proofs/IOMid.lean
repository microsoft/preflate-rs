/- C13: varints, literal copy, IDAT, stream part — each streaming function has the outcome of its
   in-memory counterpart, call by call. -/
import Preflate.Proofs.IOBase
import Preflate.Proofs.ContainerVarint
namespace Preflate.Proofs
open Preflate

theorem readVarintIO_spec (fuel : Nat) : ∀ (shift acc : Nat) (s : Source) (v : Nat) (rest : Bytes),
    readVarint fuel shift acc s.data = .ok (v, rest) → SrcPost s v rest (readVarintIO fuel shift acc s) := by
  induction fuel with
  | zero => intro _ _ _ _ _ h; cases h
  | succ fuel ih =>
    intro shift acc s v rest h
    rw [readVarintIO]
    cases hdata : s.data with
    | nil => rw [hdata] at h; cases h
    | cons b bs =>
      rw [hdata, readVarint] at h
      refine (readExact_spec 1 s (by rw [hdata]; exact Nat.succ_pos _)).bind fun s1 e1 hd => ?_
      rw [hdata] at e1 hd
      simp only [e1, List.take_succ_cons, List.take_zero]
      by_cases hs : shift ≥ 32
      · rw [if_pos hs] at h; cases h
      rw [if_neg hs] at h ⊢
      by_cases hb : b / 128 % 2 = 0
      · rw [if_pos hb] at h ⊢
        cases h
        exact SrcPost.pure hd
      · rw [if_neg hb] at h ⊢
        exact ih _ _ s1 v rest (hd ▸ h)

theorem getVarintIO_spec (s : Source) (v : Nat) (rest : Bytes) (h : getVarint s.data = .ok (v, rest)) :
    SrcPost s v rest (getVarintIO s) :=
  readVarintIO_spec _ 0 0 s v rest h

theorem copyLiteral_spec (fuel : Nat) : ∀ (len : Nat) (s : Source) (k : Sink),
    len ≤ s.data.length → len < fuel →
    FullPost s k () (s.data.drop len) (s.data.take len) (copyLiteral fuel len s k) := by
  induction fuel with
  | zero => intro _ _ _ _ h; omega
  | succ fuel ih =>
    intro len s k hlen hf
    rw [copyLiteral]
    by_cases h0 : len = 0
    · subst h0
      exact FullPost.pure rfl
    rw [if_neg h0]
    dsimp only
    have ha1 : 1 ≤ min Gen.LITERAL_STAGING len := by
      have : Gen.LITERAL_STAGING = 65536 := rfl
      omega
    have hal : min Gen.LITERAL_STAGING len ≤ len := Nat.min_le_right _ _
    generalize min Gen.LITERAL_STAGING len = a at ha1 hal
    have hsplit : s.data.take len = s.data.take a ++ (s.data.drop a).take (len - a) := by
      rw [← List.take_add, Nat.add_sub_cancel' hal]
    rw [hsplit]
    refine (readExact_spec a s (by omega)).bindFull fun s1 e1 hd1 => ?_
    simp only [e1]
    refine (writeAll_spec _ k).bindFull fun k1 e2 _ => ?_
    simp only [e2]
    have := ih (len - a) s1 k1 (by rw [hd1, List.length_drop]; omega) (by omega)
    rwa [hd1, List.drop_drop, Nat.add_sub_cancel' hal] at this

theorem readSizesIO_spec (fuel : Nat) : ∀ (s : Source) (v : List Nat) (rest : Bytes),
    readSizes fuel s.data = .ok (v, rest) → SrcPost s v rest (readSizesIO fuel s) := by
  induction fuel with
  | zero => intro _ _ _ h; cases h
  | succ fuel ih =>
    intro s v rest h
    rw [readSizes] at h
    obtain ⟨⟨n, bs1⟩, hg, h⟩ := (bind_eq_ok ..).mp h
    dsimp only at h
    rw [readSizesIO]
    refine (getVarintIO_spec s n bs1 hg).bind fun s1 e1 hd1 => ?_
    simp only [e1]
    by_cases hn : n = 0
    · rw [if_pos hn] at h ⊢
      cases h
      exact SrcPost.pure hd1
    · rw [if_neg hn] at h ⊢
      obtain ⟨⟨l, bs2⟩, hr, h⟩ := (bind_eq_ok ..).mp h
      cases h
      refine (ih s1 l _ (hd1 ▸ hr)).bind fun s2 e2 hd2 => ?_
      simp only [e2]
      exact SrcPost.pure hd2

theorem readIdatContentsIO_spec (s : Source) (c : IdatContents) (rest : Bytes)
    (h : readIdatContents s.data = .ok (c, rest)) : SrcPost s c rest (readIdatContentsIO s) := by
  rw [readIdatContents] at h
  obtain ⟨⟨sizes, bs1⟩, hg1, h⟩ := (bind_eq_ok ..).mp h
  obtain ⟨⟨hdr, bs2⟩, hg2, h⟩ := (bind_eq_ok ..).mp h
  obtain ⟨⟨ad, bs3⟩, hg3, h⟩ := (bind_eq_ok ..).mp h
  cases h
  obtain ⟨hl2, rfl, rfl⟩ := takeExact_ok hg2
  obtain ⟨hl3, rfl, rfl⟩ := takeExact_ok hg3
  rw [readIdatContentsIO]
  refine (readSizesIO_spec _ s sizes bs1 hg1).bind fun s1 e1 hd1 => ?_
  simp only [e1]
  refine (readExact_spec 2 s1 (hd1 ▸ hl2)).bind fun s2 e2 hd2 => ?_
  simp only [e2]
  refine (readExact_spec 4 s2 (by rw [hd2, hd1]; exact hl3)).bind fun s3 e3 hd3 => ?_
  simp only [e3]
  rw [hd2, hd1] at hd3 ⊢
  exact SrcPost.pure hd3

theorem idatEmitIO_spec (crc : Bytes → Nat) (contents : Bytes) : ∀ (sizes : List Nat) (index : Nat)
    (k : Sink) (bytes : Bytes), idatEmit crc contents index sizes = .ok bytes →
    SnkPost k bytes (idatEmitIO crc contents index sizes k) := by
  intro sizes
  induction sizes with
  | nil =>
    intro index k bytes h
    cases h
    exact SnkPost.pure
  | cons size rest ih =>
    intro index k bytes h
    rw [idatEmit] at h
    by_cases hidx : index + size > contents.length
    · rw [if_pos hidx] at h; cases h
    rw [if_neg hidx] at h
    obtain ⟨tail, ht, h⟩ := (bind_eq_ok ..).mp h
    cases h
    rw [idatEmitIO]
    simp only [List.append_assoc]
    refine (writeAll_spec (be32 size) k).bind fun k1 e1 _ => ?_
    simp only [e1]
    refine (writeAll_spec idatTag k1).bind fun k2 e2 _ => ?_
    simp only [e2, if_neg hidx]
    refine (writeAll_spec _ k2).bind fun k3 e3 _ => ?_
    simp only [e3]
    refine (writeAll_spec _ k3).bind fun k4 e4 _ => ?_
    simp only [e4]
    exact ih _ k4 tail ht

theorem recreateIdatIO_spec (crc : Bytes → Nat) (c : IdatContents) (deflate : Bytes) (k : Sink)
    (bytes : Bytes) (h : recreateIdat crc c deflate = .ok bytes) :
    SnkPost k bytes (recreateIdatIO crc c deflate k) := by
  rw [recreateIdat] at h
  rw [recreateIdatIO]
  by_cases hsum : c.chunkSizes.sum % 4294967296 ≠ deflate.length + 6
  · rw [if_pos hsum] at h; cases h
  · rw [if_neg hsum] at h ⊢
    exact idatEmitIO_spec crc _ _ _ k bytes h

theorem readStreamIO_spec (s : Source) (pl cl : Nat) (plain corr bs1 bs2 bs3 bs4 : Bytes)
    (h1 : getVarint s.data = .ok (pl, bs1)) (h2 : takeExact pl bs1 = .ok (plain, bs2))
    (h3 : getVarint bs2 = .ok (cl, bs3)) (h4 : takeExact cl bs3 = .ok (corr, bs4)) :
    SrcPost s (plain, corr) bs4 (readStreamIO s) := by
  obtain ⟨hl2, rfl, rfl⟩ := takeExact_ok h2
  obtain ⟨hl4, rfl, rfl⟩ := takeExact_ok h4
  rw [readStreamIO]
  refine (getVarintIO_spec s pl bs1 h1).bind fun s1 e1 hd1 => ?_
  simp only [e1]
  refine (readExact_spec pl s1 (hd1 ▸ hl2)).bind fun s2 e2 hd2 => ?_
  simp only [e2]
  rw [hd1] at hd2
  refine (getVarintIO_spec s2 cl bs3 (hd2 ▸ h3)).bind fun s3 e3 hd3 => ?_
  simp only [e3]
  refine (readExact_spec cl s3 (hd3 ▸ hl4)).bind fun s4 e4 hd4 => ?_
  simp only [e4]
  rw [hd1, hd3] at *
  exact SrcPost.pure hd4

end Preflate.Proofs

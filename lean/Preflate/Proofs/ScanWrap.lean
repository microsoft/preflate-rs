/- C06: what the gzip and ZIP header parsers compute on the specification-side headers
   (Model/Wrappers.lean). -/
import Preflate.Proofs.ContainerScan
namespace Preflate.Proofs
open Preflate

theorem skipCString_append (nm rest : Bytes) (h : ∀ b ∈ nm, b ≠ 0) (n : Nat) :
    skipCString (nm ++ 0 :: rest) n = .ok (n + nm.length + 1) := by
  induction nm generalizing n with
  | nil => simp [skipCString]
  | cons b t ih =>
    have hb : b ≠ 0 := h b (by simp)
    simp only [List.cons_append, skipCString, hb, if_false]
    rw [ih (fun x hx => h x (by simp [hx]))]
    simp only [List.length_cons]; congr 1; omega

/-- With bits 1..4 of the reserved flags clear, `flags` is `r + 2a + 4b + 8c + 16d` for bits `a..d`
    saying which optional fields are present, and each bit can be read off again. -/
theorem gz_flags (g : GzipFields) (hr : g.reservedFlags % 2 ^ 5 / 2 = 0) :
    (g.flags / 4 % 2 = 1 ↔ g.extra.isSome) ∧ (g.flags / 8 % 2 = 1 ↔ g.name.isSome) ∧
    (g.flags / 16 % 2 = 1 ↔ g.comment.isSome) ∧ (g.flags / 2 % 2 = 1 ↔ g.hcrc.isSome) := by
  have bit : ∀ (f : Option Bytes) (k : Nat),
      ∃ a, a ≤ 1 ∧ (if f.isSome then k else 0) = k * a ∧ (f.isSome ↔ a = 1) := by
    intro f k
    cases f
    · exact ⟨0, by simp⟩
    · exact ⟨1, by simp⟩
  obtain ⟨a, ha, ea, ia⟩ := bit g.hcrc 2
  obtain ⟨b, hb, eb, ib⟩ := bit g.extra 4
  obtain ⟨c, hc, ec, ic⟩ := bit g.name 8
  obtain ⟨d, hd, ed, id⟩ := bit g.comment 16
  rw [GzipFields.flags, ea, eb, ec, ed, ia, ib, ic, id]
  omega

def optExtra (f : Option Bytes) : Bytes := match f with | some e => le16 e.length ++ e | none => []
def optStr (f : Option Bytes) : Bytes := match f with | some n => n ++ [0] | none => []
def optCrc (f : Option Bytes) : Bytes := match f with | some h => h | none => []

theorem gzipHeader_eq (g : GzipFields) : gzipHeader g =
    [0x1f, 0x8b, 8, g.flags] ++ g.mtime ++ [g.xfl, g.os] ++ optExtra g.extra ++ optStr g.name ++
      optStr g.comment ++ optCrc g.hcrc := rfl

/- Each optional field is skipped when its bit says it is there: `s` is what has been skipped so far
   (`A`), the field, and the rest. -/

theorem gzExtra_opt {s A B : Bytes} {f : Option Bytes} (hs : s = A ++ (optExtra f ++ B)) (hA : A.length = 10)
    (hbit : s.getD 3 0 / 4 % 2 = 1 ↔ f.isSome) (hlt : ∀ e, f = some e → e.length < 65536) :
    gzExtra s = .ok (A ++ optExtra f).length := by
  unfold gzExtra
  cases f with
  | none => rw [if_neg (by rw [hbit]; simp)]; simp [optExtra, hA]
  | some e =>
    have hd : (s.drop 10).take 2 = le16 e.length := by
      rw [hs, ← hA, List.drop_left]; rfl
    have hl : s.length = 12 + e.length + B.length := by
      rw [hs]; simp [optExtra, le16, hA]; omega
    rw [if_pos (hbit.mpr rfl), hd, ofLe16_le16 _ (hlt e rfl), if_neg (by omega), if_neg (by omega)]
    simp [optExtra, le16, hA]; omega

theorem gzStr_opt {s A B : Bytes} {bit : Nat} {f : Option Bytes} (hs : s = A ++ (optStr f ++ B))
    (hbit : s.getD 3 0 / bit % 2 = 1 ↔ f.isSome) (hnz : ∀ x, f = some x → ∀ b ∈ x, b ≠ 0) :
    gzStr s bit A.length = .ok (A ++ optStr f).length := by
  unfold gzStr
  cases f with
  | none => rw [if_neg (by rw [hbit]; simp)]; simp [optStr]
  | some x =>
    rw [if_pos (hbit.mpr rfl), hs, List.drop_left, optStr, List.append_assoc, List.singleton_append,
      skipCString_append _ _ (hnz x rfl)]
    simp [Nat.add_assoc]

theorem gzCrc_opt {s A B : Bytes} {f : Option Bytes} (hs : s = A ++ (optCrc f ++ B))
    (hbit : s.getD 3 0 / 2 % 2 = 1 ↔ f.isSome) (h2 : ∀ x, f = some x → x.length = 2) :
    gzCrc s A.length = .ok (A ++ optCrc f).length := by
  unfold gzCrc
  cases f with
  | none => rw [if_neg (by rw [hbit]; simp)]; simp [optCrc]
  | some x =>
    rw [if_pos (hbit.mpr rfl), if_neg (by rw [hs]; simp [optCrc, h2 x rfl])]
    simp [optCrc, h2 x rfl]

theorem skipGzipHeader_gzipHeader (g : GzipFields) (hg : g.WF) (rest : Bytes) :
    skipGzipHeader (gzipHeader g ++ rest) = .ok (gzipHeader g).length := by
  obtain ⟨fE, fN, fC, fH⟩ := gz_flags g hg.reserved.1
  have h2 : (gzipHeader g ++ rest).getD 2 0 = 8 := rfl
  have h3 : (gzipHeader g ++ rest).getD 3 0 = g.flags := rfl
  have hP : ([0x1f, 0x8b, 8, g.flags] ++ g.mtime ++ [g.xfl, g.os]).length = 10 := by simp [hg.mtime]
  rw [← h3] at fE fN fC fH
  rw [gzipHeader_eq] at h2 fE fN fC fH ⊢
  generalize [0x1f, 0x8b, 8, g.flags] ++ g.mtime ++ [g.xfl, g.os] = P at *
  generalize hs : P ++ optExtra g.extra ++ optStr g.name ++ optStr g.comment ++ optCrc g.hcrc ++ rest = s at *
  have hl : 10 ≤ s.length := by rw [← hs]; simp only [List.length_append, hP]; omega
  rw [skipGzipHeader_eq, if_neg (by omega), if_neg (fun h => h h2),
    gzExtra_opt (B := optStr g.name ++ (optStr g.comment ++ (optCrc g.hcrc ++ rest)))
      (by rw [← hs]; simp only [List.append_assoc]) hP fE hg.extra, ok_bind,
    gzStr_opt (B := optStr g.comment ++ (optCrc g.hcrc ++ rest))
      (by rw [← hs]; simp only [List.append_assoc]) fN hg.name, ok_bind,
    gzStr_opt (B := optCrc g.hcrc ++ rest) (by rw [← hs]; simp only [List.append_assoc]) fC hg.comment, ok_bind,
    gzCrc_opt (B := rest) (by rw [← hs]; simp only [List.append_assoc]) fH hg.hcrc, ok_bind]

/-- the 30 fixed bytes of the local file header -/
def zipFixed (z : ZipFields) : Bytes :=
  le32 0x04034b50 ++ le16 z.version ++ le16 z.flags ++ le16 8 ++ le16 z.time ++ le16 z.date ++
  le32 z.crc ++ le32 z.csize ++ le32 z.usize ++ le16 z.name.length ++ le16 z.extra.length

theorem zipHeader_eq (z : ZipFields) : zipHeader z = zipFixed z ++ z.name ++ z.extra := rfl

theorem zipFixed_fields (z : ZipFields) (T : Bytes) :
    (zipFixed z ++ T).take 4 = le32 0x04034b50 ∧ ((zipFixed z ++ T).drop 8).take 2 = le16 8 ∧
    ((zipFixed z ++ T).drop 26).take 2 = le16 z.name.length ∧
    ((zipFixed z ++ T).drop 28).take 2 = le16 z.extra.length ∧ (zipFixed z ++ T).length = T.length + 30 ∧
    ∃ t, zipFixed z ++ T = 0x50 :: 0x4b :: t := by
  simp only [zipFixed, le16, le32, List.cons_append, List.nil_append]
  exact ⟨rfl, rfl, rfl, rfl, rfl, _, rfl⟩

theorem parseZipStream_zipHeader (o : Oracle) (z : ZipFields) (rest : Bytes) (r : Res)
    (hn : z.name.length < 65536) (hx : z.extra.length < 65536)
    (hacc : o.verified rest = .ok r) :
    parseZipStream o (zipHeader z ++ rest) = .ok ((zipHeader z).length, r) := by
  have hlen : (zipHeader z).length = 30 + z.name.length + z.extra.length := by
    rw [zipHeader_eq, List.append_assoc, (zipFixed_fields z _).2.2.2.2.1, List.length_append]; omega
  have hform : zipHeader z ++ rest = zipFixed z ++ (z.name ++ (z.extra ++ rest)) := by
    rw [zipHeader_eq]; simp only [List.append_assoc]
  obtain ⟨f1, f2, f3, f4, hl, _⟩ := zipFixed_fields z (z.name ++ (z.extra ++ rest))
  rw [← hform] at f1 f2 f3 f4 hl
  rw [parseZipStream_eq, f1, f2, f3, f4, ofLe16_le16 _ hn, ofLe16_le16 _ hx, hl]
  simp only [List.length_append]
  rw [if_neg (by omega), if_neg (by decide), if_neg (by omega), if_pos (by decide), if_neg (by omega),
    zipVerify, ← hlen, List.drop_left, hacc]

end Preflate.Proofs

/- C13: the streaming reader has the outcome of the in-memory one — chunk, chunk loop, whole call — and
   from that outcome the two statements about fragmented and failing I/O. -/
import Preflate.Proofs.IOMid
namespace Preflate.Proofs
open Preflate

/-- the part of `readChunkIO` for tags 1 and 2 after the optional IDAT header (same code) -/
def chunkTailIO (o : Oracle) (crc : Bytes → Nat) (idat : Option IdatContents) (s : Source) (k : Sink) :
    R Bool × Source × Sink :=
  match readStreamIO s with
  | (.ok (plain, corr), s) =>
      match o.recompress plain corr with
      | .ok back =>
          match idat with
          | some c =>
              match recreateIdatIO crc c back k with
              | (.ok (), k) => (.ok true, s, k)
              | (.error e, k) => (.error e, s, k)
          | none =>
              match writeAll back k with
              | (.ok (), k) => (.ok true, s, k)
              | (.error e, k) => (.error e, s, k)
      | .error e => (.error e, s, k)
  | (.error e, s) => (.error e, s, k)

theorem chunkTailIO_spec (o : Oracle) (crc : Bytes → Nat) (idat : Option IdatContents) (s : Source) (k : Sink)
    (pl cl : Nat) (plain corr bs1 bs2 bs3 bs4 back outB : Bytes)
    (h1 : getVarint s.data = .ok (pl, bs1)) (h2 : takeExact pl bs1 = .ok (plain, bs2))
    (h3 : getVarint bs2 = .ok (cl, bs3)) (h4 : takeExact cl bs3 = .ok (corr, bs4))
    (hrec : o.recompress plain corr = .ok back)
    (hout : idat.elim (outB = back) fun c => recreateIdat crc c back = .ok outB) :
    FullPost s k true bs4 outB (chunkTailIO o crc idat s k) := by
  rw [chunkTailIO, ← List.append_nil outB]
  refine (readStreamIO_spec s pl cl plain corr bs1 bs2 bs3 bs4 h1 h2 h3 h4).bindFull fun s1 e1 hd1 => ?_
  cases idat with
  | some c =>
    simp only [e1, hrec]
    refine (recreateIdatIO_spec crc c back k outB hout).bindFull fun k1 e2 _ => ?_
    simp only [e2]
    exact FullPost.pure hd1
  | none =>
    cases hout
    simp only [e1, hrec]
    refine (writeAll_spec back k).bindFull fun k1 e2 _ => ?_
    simp only [e2]
    exact FullPost.pure hd1

theorem readChunkIO_spec (o : Oracle) (crc : Bytes → Nat) (s : Source) (k : Sink)
    (oc : Option (Bytes × Bytes)) (h : readChunk o crc s.data = .ok oc) :
    FullPost s k oc.isSome ((oc.map (·.2)).getD []) ((oc.map (·.1)).getD []) (readChunkIO o crc s k) := by
  rw [readChunkIO]
  refine FullPost.read1 (fun s1 e0 hd0 => ?_) (fun e s1 h => by rw [h])
  cases hdata : s.data with
  | nil =>
    rw [hdata] at h e0 hd0
    cases h
    simp only [e0]
    exact FullPost.pure hd0
  | cons tag bs =>
    rw [hdata] at h e0 hd0
    have hd0 : s1.data = bs := hd0
    rw [readChunk] at h
    simp only [e0, List.take_succ_cons, List.take_zero]
    by_cases ht0 : tag = 0
    · rw [if_pos ht0] at h ⊢
      obtain ⟨⟨n, b1⟩, hg, h⟩ := (bind_eq_ok ..).mp h
      obtain ⟨⟨d, b2⟩, ht, h⟩ := (bind_eq_ok ..).mp h
      cases h
      obtain ⟨hl, rfl, rfl⟩ := takeExact_ok ht
      refine (getVarintIO_spec s1 n b1 (hd0 ▸ hg)).bindFull fun s2 e1 hd1 => ?_
      simp only [e1]
      have hcl := copyLiteral_spec (n + 1) n s2 k (hd1 ▸ hl) (Nat.lt_succ_self n)
      rw [hd1] at hcl
      show FullPost s2 k true (b1.drop n) (b1.take n) _
      rw [← List.append_nil (b1.take n)]
      refine hcl.bind fun s3 k3 e2 hd3 _ => ?_
      simp only [e2]
      exact FullPost.pure hd3
    rw [if_neg ht0] at h ⊢
    by_cases ht12 : tag = 1 ∨ tag = 2
    · rw [if_pos ht12] at h ⊢
      obtain ⟨⟨idat, bI⟩, hI, h⟩ := (bind_eq_ok ..).mp h
      obtain ⟨⟨pl, b1⟩, hg1, h⟩ := (bind_eq_ok ..).mp h
      obtain ⟨⟨plain, b2⟩, hg2, h⟩ := (bind_eq_ok ..).mp h
      obtain ⟨⟨cl, b3⟩, hg3, h⟩ := (bind_eq_ok ..).mp h
      obtain ⟨⟨corr, b4⟩, hg4, h⟩ := (bind_eq_ok ..).mp h
      obtain ⟨back, hrec, h⟩ := (bind_eq_ok ..).mp h
      obtain ⟨outB, rfl, hout⟩ : ∃ outB, oc = some (outB, b4) ∧
          idat.elim (outB = back) fun c => recreateIdat crc c back = .ok outB := by
        cases idat with
        | some c =>
          obtain ⟨outB, ho, h⟩ := (bind_eq_ok ..).mp h
          cases h
          exact ⟨outB, rfl, ho⟩
        | none => cases h; exact ⟨back, rfl, rfl⟩
      have key : ∀ s2 : Source, s2.data = bI → FullPost s2 k true b4 outB (chunkTailIO o crc idat s2 k) :=
        fun s2 hd2 => chunkTailIO_spec o crc idat s2 k pl cl plain corr b1 b2 b3 b4 back outB
          (hd2 ▸ hg1) hg2 hg3 hg4 hrec hout
      by_cases ht2 : tag = 2
      · rw [if_pos ht2] at hI ⊢
        obtain ⟨⟨c, bc⟩, hrc, hI⟩ := (bind_eq_ok ..).mp hI
        cases hI
        refine (readIdatContentsIO_spec s1 c bI (hd0 ▸ hrc)).bindFull fun s2 e1 hd1 => ?_
        simp only [e1]
        exact key s2 hd1
      · rw [if_neg ht2] at hI ⊢
        cases hI
        exact key s1 hd0
    · rw [if_neg ht12] at h; cases h

theorem readChunksIO_spec (o : Oracle) (crc : Bytes → Nat) (F : Nat) : ∀ (G : Nat) (s : Source) (k : Sink)
    (total : Bytes), readChunks o crc F s.data = .ok total → F ≤ G →
    FullPost s k () [] total (readChunksIO o crc G s k) := by
  induction F with
  | zero => intro _ _ _ _ h; cases h
  | succ F ih =>
    intro G s k total h hFG
    obtain ⟨G, rfl⟩ : ∃ G', G = G' + 1 := ⟨G - 1, by omega⟩
    rw [readChunks] at h
    obtain ⟨oc, hc, h⟩ := (bind_eq_ok ..).mp h
    rw [readChunksIO]
    cases oc with
    | none =>
      cases h
      rw [← List.append_nil []]
      refine (readChunkIO_spec o crc s k none hc).bind fun s1 k1 e1 hd1 _ => ?_
      simp only [e1, Option.isSome_none]
      exact FullPost.pure hd1
    | some ob =>
      obtain ⟨outB, rest⟩ := ob
      obtain ⟨tl, htl, h⟩ := (bind_eq_ok ..).mp h
      cases h
      refine (readChunkIO_spec o crc s k _ hc).bind fun s1 k1 e1 hd1 _ => ?_
      simp only [e1, Option.isSome_some]
      exact ih G s1 k1 tl (hd1 ▸ htl) (by omega)

theorem recreateIO_spec (o : Oracle) (crc : Bytes → Nat) (c f : Bytes)
    (hc : recreate o crc c = .ok f) (rs ws : List IoEv) :
    FullPost ⟨c, rs⟩ ⟨[], ws⟩ () [] f (recreateIO o crc ⟨c, rs⟩ ⟨[], ws⟩) := by
  cases c with
  | nil => cases hc
  | cons v rest =>
    rw [recreate] at hc
    by_cases hv : v ≠ Gen.WRAPPER_VERSION
    · rw [if_pos hv] at hc; cases hc
    rw [if_neg hv] at hc
    rw [recreateIO]
    refine (readExact_spec 1 ⟨v :: rest, rs⟩ (Nat.succ_pos _)).bindFull fun s1 e1 hd1 => ?_
    have hd1 : s1.data = rest := hd1
    simp only [e1, List.take_succ_cons, List.take_zero, if_neg hv]
    exact readChunksIO_spec o crc (rest.length + 1) _ s1 _ f (hd1 ▸ hc) (by rw [hd1]; omega)

theorem frag_independent (o : Oracle) (crc : Bytes → Nat) (c f : Bytes)
    (hc : recreate o crc c = .ok f) (rs ws : List IoEv) (hr : OnlyShort rs) (hw : OnlyShort ws) :
    ∃ s' k', recreateIO o crc ⟨c, rs⟩ ⟨[], ws⟩ = (.ok (), s', k') ∧ k'.out = f := by
  obtain ⟨_, _, ⟨e, _, ho⟩ | ⟨_, hb, _⟩⟩ := recreateIO_spec o crc c f hc rs ws (onlyShort_nozero hr)
  · exact ⟨_, _, Prod.ext e rfl, ho⟩
  · exact absurd ⟨hr, hw⟩ hb

theorem error_clean (o : Oracle) (crc : Bytes → Nat) (c f : Bytes)
    (hc : recreate o crc c = .ok f) (rs ws : List IoEv) (hrz : IoEv.zero ∉ rs) :
    (∀ m, (recreateIO o crc ⟨c, rs⟩ ⟨[], ws⟩).1 ≠ .error (.panic m)) ∧
    (recreateIO o crc ⟨c, rs⟩ ⟨[], ws⟩).1 ≠ .error .fuel ∧
    (recreateIO o crc ⟨c, rs⟩ ⟨[], ws⟩).2.2.out <+: f ∧
    ((recreateIO o crc ⟨c, rs⟩ ⟨[], ws⟩).1 = .ok () → (recreateIO o crc ⟨c, rs⟩ ⟨[], ws⟩).2.2.out = f) := by
  obtain ⟨_, _, ⟨e, _, ho⟩ | ⟨e, _, p, hp, ho⟩⟩ := recreateIO_spec o crc c f hc rs ws hrz
  · rw [e, ho]
    exact ⟨fun m hm => (nomatch hm), fun hm => (nomatch hm), List.prefix_refl _, fun _ => rfl⟩
  · rw [e, ho]
    exact ⟨fun m hm => (nomatch hm), fun hm => (nomatch hm), hp, fun hm => (nomatch hm)⟩

end Preflate.Proofs

/- The array-encoded Huffman tree of huffman_helper.rs decodes exactly as the canonical code does
(properties C03 and C05). Two directions, glued by the `find?` in `decodeSym`: when a table entry is a
prefix of the input, the walk along its code ends at its symbol (`walk_of_prefix`); and any walk
that ends at a symbol has read that symbol's code (`decodeSymTree_fwd`), so when no entry is a
prefix the walk runs out of bits, as `decodeSym` fails. -/
import Preflate.Model.HuffTree
import Preflate.Proofs.HuffTreeWalk
namespace Preflate.Proofs
open Preflate

/-- `decode_symbol` starts at the root pair, the block of level 1 -/
theorem root_eq {l : List Nat} {t : Array Int} (ht : TreeOK l t) :
    (t.size : Int) - 2 = entry l 0 0 := by
  have h1 : startOf l 0 = startOf l (0 + 1) + width l 1 := startOf_succ l (by omega)
  have h2 : entry l 0 0 = ((startOf l (0 + 1) + 2 * 0 : Nat) : Int) := entry_inner l 0 0
  have := ht.size
  rw [width_one] at h1
  omega

theorem walk_of_prefix {l : List Nat} {t : Array Int} (hc : Complete l) (ht : TreeOK l t)
    {c : Bits} {s : Nat} {bs : Bits} (hm : (c, s) ∈ codeTable l) (hp : isPrefix c bs = true) :
    decodeSymTree t bs = .ok (s, bs.drop c.length) := by
  obtain ⟨rfl, hs, hl⟩ := mem_codeTable hm
  have hbs := isPrefix_eq hp
  generalize bs.drop (codeBits l s).length = rest at hbs
  subst hbs
  unfold decodeSymTree
  rw [root_eq ht, List.length_append, length_codeBits,
    show l.getD s 0 + rest.length + 1 = (rest.length + 1) + l.getD s 0 by omega]
  exact walk_code hc ht s hs hl rest _

theorem decodeSymTree_fwd {l : List Nat} {t : Array Int} (hc : Complete l) (ht : TreeOK l t)
    (bs : Bits) : decodeSymTree t bs = .error .err ∨ ∃ s rest, decodeSymTree t bs = .ok (s, rest) ∧
      bs = codeBits l s ++ rest ∧ s < l.length ∧ l.getD s 0 ≠ 0 := by
  have := walk_fwd hc ht bs 0 0 (bs.length + 1) (by omega) (by simp [cntP, width]) (by omega)
  rwa [show cntP l 0 + 0 = 0 from rfl, ← root_eq ht] at this

theorem decodeSymTree_spec {l : List Nat} {t : Array Int} (hc : Complete l) (ht : TreeOK l t)
    (bs : Bits) : decodeSymTree t bs = decodeSym (codeTable l) bs := by
  unfold decodeSym
  split
  · rename_i c s hf
    have hp : isPrefix c bs = true :=
      List.find?_some (p := fun e : Bits × Nat => isPrefix e.1 bs) hf
    rw [walk_of_prefix hc ht (List.mem_of_find?_eq_some hf) hp]
  · rename_i hf
    rcases decodeSymTree_fwd hc ht bs with h | ⟨s, rest, h, hbs, hs, hl⟩
    · exact h
    · have := List.find?_eq_none.mp hf _ (codeTable_mem hs hl)
      rw [hbs, isPrefix_append] at this
      exact absurd rfl this

/-- index safety: for every length vector the validity check accepts, building the tree stays inside
    the allocated array and walking it never indexes out of range, whatever the input bits -/
theorem tree_index_safe (l : List Nat) (h : validLengths l = true) :
    ∃ t, buildTree l = .ok t ∧ ∀ bs m, decodeSymTree t bs ≠ .error (.panic m) := by
  have hc := complete_of_valid h
  refine ⟨_, buildTree_eq hc, fun bs m => ?_⟩
  rcases decodeSymTree_fwd hc (treeOK_buildLevels hc) bs with h | ⟨s, rest, h, _⟩ <;> rw [h] <;> simp

/-- the tree walk decodes exactly what canonical-code matching decodes -/
theorem decodeSymTree_eq (l : List Nat) (h : validLengths l = true) (bs : Bits) :
    ∃ t, buildTree l = .ok t ∧ decodeSymTree t bs = decodeSym (codeTable l) bs := by
  have hc := complete_of_valid h
  exact ⟨_, buildTree_eq hc, decodeSymTree_spec hc (treeOK_buildLevels hc) bs⟩

end Preflate.Proofs

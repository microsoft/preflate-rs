/-
The plain-text size limit of the reader (deflate_reader.rs `check_plain_text_size`).

The reader refuses to go on once the plain text is longer than `PLAIN_LIMIT = i32::MAX - 65535`;
the check sits at the top of every iteration of the token loop (so also before the end-of-block
symbol is fetched) and before the bytes of a stored block are read. Consequences, for EVERY input:

* a Huffman block leaves at most `PLAIN_LIMIT` bytes of plain text (its last iteration, the one
  that fetches the end-of-block symbol, passed the check and adds nothing);
* a stored block starts at `≤ PLAIN_LIMIT` and adds `len ≤ 65535` bytes;
* so the plain text of an accepted stream has at most `PLAIN_LIMIT + 65535 = 2^31 - 1` bytes. The
  bound is NOT strict: a stored block of 65535 bytes that starts at exactly `PLAIN_LIMIT` is
  accepted and ends at exactly `2^31 - 1` (`readBlock_limit_reached`);
* every token adds at least one byte (`decodeTokens_limit`), so a Huffman block has at most
  `PLAIN_LIMIT` tokens — below `2^31 - 1`, which is what the token-count correction needs
  (`TokenCountsSmall`), and below `2^32 - 1`, which is what `ValidBlock` needs
  (`readBlock_valid`, `parse_valid_unbounded`).
-/
import Preflate.Proofs.Expands
import Preflate.Model.PredBounded
namespace Preflate.Proofs
open Preflate Preflate.Gen

variable {fuel : Nat} {plain plain' : Array Nat} {bs rest : Bits} {last : Bool} {b : Block}
  {blocks : List Block}

theorem plain_limit_step : PLAIN_LIMIT + 65535 = 2147483647 := rfl
theorem plain_limit_i32 : PLAIN_LIMIT + 65535 = 2 ^ 31 - 1 := by decide

theorem readBlock_limit (h : readBlock plain bs = .ok (last, b, plain', rest)) :
    plain'.size ≤ PLAIN_LIMIT + 65535 ∧ (blockTokens b).length ≤ PLAIN_LIMIT ∧
      ((∀ pad data, b ≠ .stored pad data) → plain'.size ≤ PLAIN_LIMIT) := by
  obtain ⟨l, bs1, mode, bs2, -, -, -, hb⟩ := readBlock_eq_ok.mp h
  cases hb with
  | @stored pad len _ _ _ _ _ data _ h4 _ _ hlim h6 =>
    have hlen : len < 2 ^ 16 := (readBits_ok h4).2
    have hdl := (readBytes_ok h6).2
    rw [size_pushAll]
    exact ⟨by omega, Nat.zero_le _, fun hn => absurd rfl (hn pad data)⟩
  | fixed h3 =>
    obtain ⟨a, b⟩ := decodeTokens_limit h3
    exact ⟨Nat.le_add_right_of_le a, by dsimp only [blockTokens]; omega, fun _ => a⟩
  | dynamic _ _ _ _ h5 =>
    obtain ⟨a, b⟩ := decodeTokens_limit h5
    exact ⟨Nat.le_add_right_of_le a, by dsimp only [blockTokens]; omega, fun _ => a⟩

theorem readBlocks_limit (h : readBlocks fuel plain bs = .ok (blocks, plain', rest)) :
    plain'.size ≤ PLAIN_LIMIT + 65535 ∧ ∀ b ∈ blocks, (blockTokens b).length ≤ PLAIN_LIMIT := by
  refine readBlocks_induct ?_ ?_ h
  · intro _ _ _ b _ _ h1
    exact ⟨(readBlock_limit h1).1, List.forall_mem_singleton.mpr (readBlock_limit h1).2.1⟩
  · intro _ _ _ b _ _ r _ _ h1 ⟨f1, f2⟩
    exact ⟨f1, List.forall_mem_cons.mpr ⟨(readBlock_limit h1).2.1, f2⟩⟩

theorem parseBits_limit (bs : Bits) (p : Parsed) (h : parseBits bs = .ok p) :
    p.plain.size ≤ PLAIN_LIMIT + 65535 ∧ ∀ b ∈ p.blocks, (blockTokens b).length ≤ PLAIN_LIMIT := by
  obtain ⟨bs1, h1, -⟩ := parseBits_eq_ok.mp h
  exact readBlocks_limit h1

/-- the plain text of an accepted stream fits an `i32` -/
theorem parse_plain_lt (d : List UInt8) (p : Parsed) (h : parse d = .ok p) :
    p.plain.size ≤ 2147483647 :=
  (parseBits_limit _ p h).1

theorem parse_plain_le_limit (d : List UInt8) (p : Parsed) (h : parse d = .ok p) :
    p.plain.size ≤ PLAIN_LIMIT + 65535 :=
  (parseBits_limit _ p h).1

theorem parse_tokens_le_limit (d : List UInt8) (p : Parsed) (h : parse d = .ok p) :
    ∀ b ∈ p.blocks, (blockTokens b).length ≤ PLAIN_LIMIT :=
  (parseBits_limit _ p h).2

theorem parse_tokens_lt (d : List UInt8) (p : Parsed) (h : parse d = .ok p) :
    ∀ b ∈ p.blocks, (blockTokens b).length < 2 ^ 31 - 1 := by
  intro b hb
  have := parse_tokens_le_limit d p h b hb
  rw [plain_limit_val] at this
  omega

theorem parse_tokenCountsSmall (d : List UInt8) (p : Parsed) (h : parse d = .ok p) :
    TokenCountsSmall p.blocks :=
  parse_tokens_lt d p h

/-- a final stored block holding `data`, written after a multiple of 8 bits: the three header bits,
    five bits of padding, LEN, NLEN, the bytes. Nested to the right and closed by `++ []`, so that each
    `readBits_app` / `readBytes_app` below applies as it is stated, to `w ++ rest`. -/
def storedBits (data : List Nat) : Bits :=
  bitsOfNat 1 1 ++ (bitsOfNat 2 0 ++ (bitsOfNat 5 0 ++ (bitsOfNat 16 data.length ++
    (bitsOfNat 16 (65535 - data.length) ++ (data.flatMap (bitsOfNat 8) ++ [])))))

theorem readBlock_stored_app (plain : Array Nat) (hs : plain.size ≤ PLAIN_LIMIT) (data : List Nat)
    (hd : ∀ x ∈ data, x < 256) (hn : data.length ≤ 65535) :
    readBlock plain (storedBits data) = .ok (true, .stored 0 data, pushAll plain data, []) := by
  refine readBlock_eq_ok.mpr ⟨1, _, 0, _, readBits_app (by decide) _, readBits_app (by decide) _, rfl,
    .stored ?_ (readBits_app (v := data.length) (by omega) _)
      (readBits_app (v := 65535 - data.length) (by omega) _) (by omega) hs
      (readBytes_app data [] hd)⟩
  -- the padding read: 5 + 16 + 16 + 8 * data.length bits are left, so 5 bits to the byte boundary
  have hlen : (bitsOfNat 5 0 ++ (bitsOfNat 16 data.length ++ (bitsOfNat 16 (65535 - data.length) ++
      (data.flatMap (bitsOfNat 8) ++ [])))).length % 8 = 5 := by
    simp only [List.length_append, length_bitsOfNat, length_flatMap_bytes, List.length_nil]
    omega
  rw [hlen]
  exact readBits_app (n := 5) (v := 0) (by decide) _

theorem readBlock_limit_reached (plain : Array Nat) (hs : plain.size = PLAIN_LIMIT) :
    ∃ bs b plain', readBlock plain bs = .ok (true, b, plain', []) ∧ plain'.size = 2147483647 := by
  have hl : (List.replicate 65535 0).length = 65535 := List.length_replicate ..
  have hd : ∀ x ∈ List.replicate 65535 0, x < 256 := by
    intro x hx
    rw [(List.mem_replicate.mp hx).2]
    decide
  refine ⟨_, _, _, readBlock_stored_app plain (Nat.le_of_eq hs) (List.replicate 65535 0) hd
    (Nat.le_of_eq hl), ?_⟩
  rw [size_pushAll, hl, hs]
  exact plain_limit_step

end Preflate.Proofs

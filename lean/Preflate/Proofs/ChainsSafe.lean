/-
The panic sites of the hash-chain match finder (`Model/ChainsSafe.lean`) are unreachable when the
predictor is driven over a valid stream (`encStreamChk_ok`).

Every checker is a `do` block of `need`s, calls of other checkers and `if`s; its `…_ok` lemma follows it
line by line with `need_bind`, `chk_bind` and `ite_ok`, proving each site's condition where it stands.
The two checkers that answer a value, `matchLoopC` and `matchTokenC`, are followed once with the rules of
`Checked`, which yield the answer (that of `Chains.matchToken`) and the absence of panics together.
Site C4 of `iterate` needs the table invariant `TableInv` (the chains only hold positions below the
insertion frontier; `update_chain` and `reshift` preserve it), `predict_token` the state invariant
`RunInv`, which the token and block loops carry along.

Two defects of `match_token_offset` are cited below as history (i) and (ii).
(i) Before `if best_len >= max_len { break }` was added to the loop, a candidate recorded with
`best_len == max_len` sent the next one into `prefix_compare` against its assertion
(`prefix_compare_defect_without_break`, `prefix_compare_defect_repaired`).
(ii) Lazy matching with `zlib_compatible` and `max_chain < 4` passes the depth `max_chain >> 2 = 0`, and
`max_chain -= 1` underflows at the first candidate (`max_chain_underflow_at_depth0`); `LazyDepthOK` is
the hypothesis that excludes this combination.
-/
import Preflate.Model.ChainsSafe
import Preflate.Model.Valid
import Preflate.Proofs.ChainBounds
import Preflate.Proofs.ChainsBounded
import Preflate.Proofs.PredictBlock
namespace Preflate.Proofs
open Preflate Preflate.Chains

-- `id rfl`: as `rfl`-lemmas `simp` would use these by `dsimp`, and the kernel would have to unfold `>>=`
-- in the whole term again
@[simp] theorem R_ok_bind {α β : Type} (a : α) (f : α → R β) : ((Except.ok a : R α) >>= f) = f a := id rfl
@[simp] theorem R_pure_eq {α : Type} (a : α) : (pure a : R α) = .ok a := id rfl
theorem R_error_bind {α β : Type} (e : Fail) (f : α → R β) : ((Except.error e : R α) >>= f) = .error e := id rfl

/-- a check that passes drops out of a `do` block; with `hf := rfl` a rewrite rule -/
theorem chk_bind {x : R Unit} {β : Type} {f : Unit → R β} {r : R β} (hx : x = .ok ()) (hf : f () = r) :
    (x >>= f) = r := by
  rw [hx]
  exact hf

theorem need_ok {c : Prop} [Decidable c] {s : String} (h : c) : need c s = .ok () := if_pos h

theorem need_bind {c : Prop} [Decidable c] {s : String} {β : Type} {f : Unit → R β} {r : R β} (h : c)
    (hf : f () = r) : (need c s >>= f) = r := chk_bind (need_ok h) hf

theorem need_bind_ok {c : Prop} [Decidable c] {s : String} {β : Type} {f : Unit → R β} {b : β}
    (h : (need c s >>= f) = .ok b) : c ∧ f () = .ok b := by
  by_cases hc : c
  · rw [need_bind hc rfl] at h; exact ⟨hc, h⟩
  · unfold need at h; rw [if_neg hc] at h; cases h

theorem need_eq_ok_iff {c : Prop} [Decidable c] {s : String} : need c s = .ok () ↔ c := by
  unfold need
  split <;> simp_all

theorem ite_ok {c : Prop} [Decidable c] {a b : R Unit} (ha : c → a = .ok ()) (hb : ¬ c → b = .ok ()) :
    (if c then a else b) = .ok () := by
  split
  · exact ha ‹_›
  · exact hb ‹_›

theorem inI32_of {v : Int} (h0 : -2147483648 ≤ v) (h1 : v < 2147483648) : inI32 v := ⟨h0, h1⟩

/-- `x` computes `a` with checks on the way: if it answers, it answers `a`, and under `H` every check passes.
    For the two checkers whose answer matters, `matchLoopC` and `matchTokenC`. A `Unit` checker can only
    answer `()`, so "answers ok" is all there is to say of it, and `need_bind`, `chk_bind`, `ite_ok` say it;
    both rule sets follow a `do` block line by line. -/
structure Checked {α : Type} (H : Prop) (x : R α) (a : α) : Prop where
  eq : ∀ r, x = .ok r → r = a
  ok : H → x = .ok a

theorem Checked.pure {α : Type} {H : Prop} {a : α} : Checked H (.ok a) a :=
  ⟨fun _ h => (Except.ok.inj h).symm, fun _ => rfl⟩

/-- what comes after a `need` may use its condition -/
theorem Checked.need {α : Type} {H c : Prop} [Decidable c] {s : String} {f : Unit → R α} {a : α}
    (hc : H → c) (h : c → Checked H (f ()) a) : Checked H (need c s >>= f) a := by
  by_cases hc' : c
  · rw [need_bind hc' rfl]
    exact h hc'
  · exact ⟨fun r hr => absurd (need_bind_ok hr).1 hc', fun hH => absurd (hc hH) hc'⟩

theorem Checked.bind {α β : Type} {H : Prop} {x : R α} {a : α} {f : α → R β} {b : β}
    (hx : Checked H x a) (h : Checked H (f a) b) : Checked H (x >>= f) b := by
  match x with
  | .ok r =>
    obtain rfl := hx.eq r rfl
    exact h
  | .error e => exact ⟨nofun, fun hH => nomatch hx.ok hH⟩

theorem Checked.chk {α : Type} {H : Prop} {x : R Unit} {f : Unit → R α} {a : α}
    (hx : H → x = .ok ()) (h : Checked H (f ()) a) : Checked H (x >>= f) a :=
  .bind ⟨fun _ _ => rfl, hx⟩ h

theorem Checked.ite {α : Type} {H c : Prop} [Decidable c] {x y : R α} {a b : α}
    (hx : c → Checked H x a) (hy : ¬ c → Checked H y b) :
    Checked H (if c then x else y) (if c then a else b) := by
  by_cases hc : c
  · rw [if_pos hc, if_pos hc]
    exact hx hc
  · rw [if_neg hc, if_neg hc]
    exact hy hc

theorem Checked.mono {α : Type} {H H' : Prop} {x : R α} {a : α} (hH : H → H') (h : Checked H' x a) :
    Checked H x a :=
  ⟨h.eq, fun hh => h.ok (hH hh)⟩

theorem prefixLoopChk_ok {plain : Array Nat} {a b maxLen : Nat}
    (ha : a + maxLen ≤ plain.size) (hb : b + maxLen ≤ plain.size) :
    ∀ fuel i, prefixLoopChk plain a b maxLen fuel i = .ok ()
  | 0, _ => rfl
  | fuel + 1, i => by
    rw [prefixLoopChk]
    exact ite_ok (fun _ => rfl) fun _ => need_bind (by omega) <| need_bind (by omega) <|
      ite_ok (fun _ => rfl) fun _ => prefixLoopChk_ok ha hb fuel (i + 1)

/-- P1–P4: the assertion of `prefix_compare` implies that none of its indexings is out of range;
    the assertion itself holds when both slices have `max_len` bytes, `max_len ≥ 3` and
    `best_len < max_len` -/
theorem prefixCompareChk_ok {plain : Array Nat} {a b bestLen maxLen : Nat}
    (h3 : 3 ≤ maxLen) (ha : a + maxLen ≤ plain.size) (hb : b + maxLen ≤ plain.size)
    (hbest : bestLen < maxLen) :
    prefixCompareChk plain a b bestLen maxLen = .ok () := by
  unfold prefixCompareChk
  refine need_bind (by omega) <| need_bind (by omega) <| need_bind (by omega) <| ite_ok (fun _ => rfl) fun _ => ?_
  refine need_bind (by omega) <| need_bind (by omega) <| ite_ok (fun _ => rfl) fun _ => ?_
  refine need_bind (by omega) <| need_bind (by omega) <| ite_ok (fun _ => rfl) fun _ => ?_
  exact need_bind (by omega) <| need_bind (by omega) <| ite_ok (fun _ => rfl) fun _ => prefixLoopChk_ok ha hb _ _

theorem prefixCompareChk_P1 (plain : Array Nat) (a b bestLen maxLen : Nat)
    (h : ¬ (3 ≤ maxLen ∧ maxLen ≤ plain.size - a ∧ maxLen ≤ plain.size - b ∧ bestLen < maxLen)) :
    prefixCompareChk plain a b bestLen maxLen = .error (.panic
      "P1 prefix_compare: assert!(max_len >= 3 && s1.len() >= max_len && s2.len() >= max_len && best_len < max_len)") := by
  unfold prefixCompareChk need
  rw [if_neg h]
  rfl

/-- the converse for the assertion: if `best_len ≥ max_len` (history (i): `best_len == max_len`) the
    checker — and the Rust — panic in `prefix_compare` -/
theorem prefixCompareChk_panics_of_best_ge (plain : Array Nat) (a b bestLen maxLen : Nat)
    (h : maxLen ≤ bestLen) : ∃ s, prefixCompareChk plain a b bestLen maxLen = .error (.panic s) :=
  ⟨_, prefixCompareChk_P1 plain a b bestLen maxLen (by omega)⟩

/-- C4 for a list of flagged candidates: every u16 distance subtraction is in range -/
abbrev DistsInRange (l : List (Nat × Bool)) : Prop := ∀ x ∈ l, x.2 = true

/-- M10, M12, M13, P1–P4, C4 inside the loop of `match_token_offset` (with the `best_len >= max_len`
    break). From any loop state the checked loop is `matchLoop` on the candidates without their flags;
    its checks pass when `max_len ≥ 3` bytes are left at `start_pos`, both hop limits are at most
    `start_pos`, `best_len < max_len` on entry (the `NoInput` test) and the depth is at least one. -/
theorem matchLoopC_checked (p : Params) (plain : Array Nat) (startPos maxLen nice hop0 hop1 : Nat) :
    ∀ (raw : List (Nat × Bool)) (first : Bool) (bestLen maxChain : Nat) (best : MatchResult),
      Checked ((3 ≤ maxLen ∧ startPos + maxLen ≤ plain.size ∧ startPos < 2147483648 ∧
            hop0 ≤ startPos ∧ hop1 ≤ startPos) ∧ DistsInRange raw ∧ bestLen < maxLen ∧ 1 ≤ maxChain)
        (matchLoopC true p plain startPos maxLen nice hop0 hop1 raw first bestLen maxChain best)
        (matchLoop p plain startPos maxLen nice hop0 hop1 (raw.map Prod.fst) first bestLen maxChain best)
  | [], _, _, _, _ => .pure
  | (dist, okd) :: rest, first, bestLen, maxChain, best => by
    rw [matchLoopC, List.map_cons, matchLoop]
    simp only [eq_self, true_and]
    have hr := prefixCompare_range plain (startPos - dist) startPos bestLen maxLen
    generalize prefixCompare plain (startPos - dist) startPos bestLen maxLen = ml at hr ⊢
    refine .need (fun ⟨_, hraw, _⟩ => (List.forall_mem_cons.mp hraw).1) fun _ =>
      .ite (fun _ => .pure) fun c1 => .ite (fun _ => .pure) fun c2 => ?_
    have hd : dist ≤ max hop0 hop1 := by
      cases first with
      | true => exact Nat.le_trans (Nat.le_of_not_lt fun h => c1 ⟨rfl, h⟩) (Nat.le_max_left ..)
      | false => exact Nat.le_trans (Nat.le_of_not_lt fun h => c2 ⟨rfl, h⟩) (Nat.le_max_right ..)
    refine .need (fun h => inI32_of (by omega) (by omega)) fun _ => .need (fun h => by omega) fun _ =>
      .chk (fun ⟨⟨h3, hsz, _⟩, _, hbest, _⟩ => prefixCompareChk_ok h3 (by omega) hsz hbest) ?_
    refine .ite (fun c3 => .need (fun _ => by omega) fun _ =>
      .ite (fun _ => .pure) fun _ => .ite (fun _ => .pure) fun c5 => ?_) fun _ => ?_
    -- M13, the same after a longer match and after none: past it the u32 decrement does not wrap
    all_goals
      refine .need (fun h => by omega) fun hmc => ?_
      rw [if_neg (Nat.ne_of_gt hmc)]
      exact .ite (fun _ => .pure) fun c6 =>
        (matchLoopC_checked p plain startPos maxLen nice hop0 hop1 rest false _ (maxChain - 1) _).mono
          fun ⟨hfix, hraw, hbest, _⟩ => ⟨hfix, (List.forall_mem_cons.mp hraw).2, by omega, by omega⟩

theorem hashChk_ok {p : Params} {plain : Array Nat} {i : Nat}
    (hn : numHashBytes p ≤ plain.size - i) (hsh : p.hashAlg = 1 → p.hashShift < 16) :
    hashChk p plain i = .ok () := by
  unfold hashChk
  unfold numHashBytes at hn
  revert hn hsh
  generalize p.hashAlg = alg
  intro hn hsh
  match alg with
  | 0 => rfl
  | 1 =>
    simp only at hn ⊢
    exact need_bind (by omega) <| need_bind (hsh rfl) <| need_bind (by omega) <| need_ok (by omega)
  | 2 => exact need_ok hn
  | 3 => exact need_ok hn
  | 4 => exact need_ok hn
  | 5 => exact need_ok hn
  | 6 => exact need_ok hn
  | 7 => exact need_ok hn
  | n + 8 => rfl

theorem walkRaw_fst (t : Table) (refPos : Nat) : ∀ fuel cur,
    (walkRaw t refPos fuel cur).map Prod.fst = walk t refPos fuel cur := by
  intro fuel
  induction fuel with
  | zero => intro cur; rfl
  | succ n ih =>
    intro cur
    unfold walkRaw walk
    split
    · rfl
    · simp [ih]

theorem iterateRaw_fst (p : Params) (plain : Array Nat) (c : Chain) (pos offset : Nat) :
    (iterateRaw p plain c pos offset).map Prod.fst = iterate p plain c pos offset := by
  unfold iterateRaw iterate
  simp only [apply_ite (List.map Prod.fst), List.map_append, List.map_cons, List.map_nil, walkRaw_fst]

/-- chain-table invariant: every entry the walk can reach (`S`, closed under `prev`) is an internal
    position strictly below `lim` (the internal position of the insertion frontier) and a u16; 0 is
    the end-of-chain marker -/
def TableInv (t : Table) (lim : Int) : Prop :=
  ∃ S : Nat → Prop, (∀ h : Nat, t.head[h]! = 0 ∨ S t.head[h]!) ∧
    (∀ j : Nat, S j → (j : Int) < lim ∧ j < 65536 ∧ (t.prev[j]! = 0 ∨ S t.prev[j]!))

theorem TableInv.mono {t : Table} {lim lim' : Int} (h : TableInv t lim) (hl : lim ≤ lim') :
    TableInv t lim' := by
  obtain ⟨S, h1, h2⟩ := h
  exact ⟨S, h1, fun j hj => ⟨by have := (h2 j hj).1; omega, (h2 j hj).2⟩⟩

/-- the chain tables of a holder whose insertion frontier is the plaintext position `pos` -/
def ChainTabInv (p : Params) (c : Chain) (pos : Nat) : Prop :=
  TableInv c.t ((pos : Int) - c.totalShift) ∧ (p.hashAlg = 3 → TableInv c.t3 ((pos : Int) - c.totalShift))

theorem ChainTabInv.mono {p : Params} {c : Chain} {pos pos' : Nat} (h : ChainTabInv p c pos)
    (hp : pos ≤ pos') : ChainTabInv p c pos' :=
  ⟨h.1.mono (by omega), fun h3 => (h.2 h3).mono (by omega)⟩

theorem walkRaw_flags (t : Table) (refPos : Nat) (S : Nat → Prop)
    (h2 : ∀ j : Nat, S j → (j : Int) < (refPos : Int) + 1 ∧ j < 65536 ∧ (t.prev[j]! = 0 ∨ S t.prev[j]!)) :
    ∀ fuel cur, (cur = 0 ∨ S cur) → DistsInRange (walkRaw t refPos fuel cur)
  | 0, _, _ => nofun
  | fuel + 1, cur, hc => by
    rw [walkRaw]
    by_cases h0 : cur = 0
    · rw [if_pos h0]
      nofun
    rw [if_neg h0]
    have := h2 cur (hc.resolve_left h0)
    exact List.forall_mem_cons.mpr ⟨decide_eq_true (by omega), walkRaw_flags t refPos S h2 fuel _ this.2.2⟩

theorem iterateRaw_flags (p : Params) (plain : Array Nat) {c : Chain} {pos : Nat} (offset : Nat)
    (ht : TableInv c.t ((pos : Int) - c.totalShift)) : DistsInRange (iterateRaw p plain c pos offset) := by
  obtain ⟨S, h1, h2⟩ := ht
  have hW : ∀ h : Nat, DistsInRange
      (walkRaw c.t (((pos + offset : Nat) : Int) - c.totalShift).toNat 65536 (c.t.head[h]!)) := by
    refine fun h => walkRaw_flags c.t _ S (fun j hj => ?_) 65536 _ (h1 h)
    have := h2 j hj
    exact ⟨by omega, this.2⟩
  -- a synthetic first element in front of the walk
  have hF : ∀ (b : Prop) [Decidable b] (d : Nat) (l : List (Nat × Bool)), DistsInRange l →
      DistsInRange ((if b then [(d, true)] else []) ++ l) := fun b _ d l hl =>
    List.forall_mem_append.mpr ⟨ite_both (P := DistsInRange) (List.forall_mem_cons.mpr ⟨rfl, nofun⟩) nofun, hl⟩
  unfold iterateRaw
  dsimp only
  exact ite_both (ite_both (hF _ _ _ (hW _)) (hF _ _ _ (hW _))) (ite_both (hW _) (hF _ _ _ (hW _)))

theorem curCharsChk_ok {plain : Array Nat} {pos : Nat} {off : Int} (h0 : 0 ≤ (pos : Int) + off)
    (h1 : (pos : Int) + off ≤ plain.size) (hsz : plain.size < 2147483648) :
    curCharsChk plain pos off = .ok () :=
  need_bind (inI32_of (by omega) (by omega)) (need_ok ⟨h0, h1⟩)

theorem fromAbsChk_ok {pos : Nat} {shift : Int} (h0 : 0 ≤ (pos : Int) - shift)
    (h1 : (pos : Int) - shift ≤ 65535) : fromAbsChk pos shift = .ok () :=
  need_bind (inI32_of (by omega) (by omega)) (need_ok ⟨h0, h1⟩)

/-- the eager part of `iterate`: C10, C1, C2 (from the position bounds of `Proofs/ChainBounds.lean`),
    C11, the slices and the `get_hash` reads H1–H9 (at least `num_hash_bytes` bytes are left at
    `pos + offset`), C4 for the libdeflate 3-byte candidate -/
theorem iterateChk_ok {p : Params} {plain : Array Nat} {c : Chain} {pos offset : Nat}
    (hoff : offset ≤ 1) (hsz : plain.size < 2147483648)
    (hn : numHashBytes p ≤ plain.size - (pos + offset))
    (hsh : p.hashAlg = 1 → p.hashShift < 16) (hit : IterSafe c.totalShift pos)
    (ht3 : p.hashAlg = 3 → TableInv c.t3 ((pos : Int) - c.totalShift)) :
    iterateChk p plain c pos offset = .ok () := by
  have h3 := numHashBytes_ge3 p
  obtain ⟨hi0, hi1⟩ := hit
  have hc0 : curCharsChk plain pos 0 = .ok () := curCharsChk_ok (by omega) (by omega) hsz
  have hh0 : hashChk p plain pos = .ok () := hashChk_ok (by omega) hsh
  -- `offset = 1`: the slice and the hash one byte on
  have h1 : offset ≠ 0 →
      offset = 1 ∧ curCharsChk plain pos 1 = .ok () ∧ hashChk p plain (pos + 1) = .ok () := by
    intro ho
    obtain rfl : offset = 1 := by omega
    exact ⟨rfl, curCharsChk_ok (by omega) (by omega) hsz, hashChk_ok hn hsh⟩
  unfold iterateChk
  refine need_bind (by omega) <| chk_bind (fromAbsChk_ok (by omega) (by omega)) <| ite_ok (fun ha => ?_) fun _ => ?_
  · refine ite_ok (fun ho => ?_) fun ho => ?_
    · obtain ⟨S, hS1, hS2⟩ := ht3 ha
      refine chk_bind hc0 <| chk_bind (need_ok (by omega)) <| need_bind ?_ <| chk_bind hc0 hh0
      exact (hS1 _).imp_right fun h => by have := (hS2 _ h).1; omega
    · obtain ⟨e1, hc1, hh1⟩ := h1 ho
      exact need_bind e1 <| chk_bind hc1 <| chk_bind hh1 <| chk_bind hc0 hh0
  · refine chk_bind hc0 <| chk_bind hh0 <| ite_ok (fun _ => rfl) fun ho => ?_
    obtain ⟨e1, hc1, hh1⟩ := h1 ho
    exact need_bind e1 <| chk_bind hc1 hh1

/-- what the sites need from the parameter vector (implied by `EstimatorRange`, see
    `paramsSafe_of_estimatorRange`) -/
structure ParamsSafe (p : Params) : Prop where
  /-- M2 (`1 << window_bits`), M7 (`window_bytes - MIN_LOOKAHEAD`) -/
  window : p.hashAlg ≠ 0 → 9 ≤ p.windowBits ∧ p.windowBits ≤ 31
  /-- H2 (`c << hash_shift` on u16) -/
  shift : p.hashAlg = 1 → p.hashShift < 16
  /-- M13 at the first candidate of `match_token_0(0, max_chain)` -/
  chain : p.hashAlg ≠ 0 → 1 ≤ p.maxChain

theorem paramsSafe_of_estimatorRange (p : Params) (h : EstimatorRange p) : ParamsSafe p := by
  rcases h with ⟨hp, _, _⟩ | h
  · have h0 : p.hashAlg = 0 := by rw [hp]
    exact ⟨fun hn => absurd h0 hn, fun h1 => by omega, fun hn => absurd h0 hn⟩
  · obtain ⟨_, _, hw1, hw2, ha1, ha2, hsh, _, _, _, _, hc1, _⟩ := h
    refine ⟨fun _ => ⟨hw1, by omega⟩, fun h1 => ?_, fun _ => hc1⟩
    rw [if_pos h1] at hsh
    exact hsh.1

theorem shiftLeft_window (w : Nat) (h : 9 ≤ w ∧ w ≤ 31) : 262 ≤ 1 <<< w ∧ 1 <<< w < 4294967296 := by
  rw [Nat.one_shiftLeft]
  constructor
  · calc 262 ≤ 2 ^ 9 := by decide
      _ ≤ 2 ^ w := Nat.pow_le_pow_right (by omega) h.1
  · calc 2 ^ w ≤ 2 ^ 31 := Nat.pow_le_pow_right (by omega) h.2
      _ < 4294967296 := by decide

/-- M3–M13 of `match_token_offset::<offset>` and the sites below it (`iterate`, `prefix_compare`): the
    checker follows the control flow of the validated transcription `Chains.matchToken` -/
theorem matchTokenC_checked (p : Params) (plain : Array Nat) (c : Chain) (pos offset prevLen maxDepth : Nat) :
    Checked (ParamsSafe p ∧ offset ≤ 1 ∧ plain.size < 2147483648 ∧ pos + offset ≤ plain.size ∧ 1 ≤ pos ∧
        prevLen < 4294967295 ∧ 1 ≤ maxDepth ∧ IterSafe c.totalShift pos ∧ ChainTabInv p c pos)
      (matchTokenC true p plain c pos offset prevLen maxDepth)
      (matchToken p plain c pos offset prevLen maxDepth) := by
  have hnb := numHashBytes_ge3 p
  rw [matchToken_eq]
  unfold matchTokenC
  refine .ite (fun _ => .pure) fun h0 => .need (fun h => by omega) fun _ => .need (fun h => by omega) fun _ =>
    .need (fun h => by omega) fun _ => ?_
  dsimp only
  refine .ite (fun _ => .pure) fun hml => .need (fun h => .inr (by omega)) fun _ =>
    .bind (a := mtLimits p (pos + offset)) ?_ ?_
  · have hw := fun h : ParamsSafe p => shiftLeft_window p.windowBits (h.window h0)
    unfold mtLimits
    exact .ite (fun _ => .pure) fun _ => .ite (fun _ => .pure) fun _ => .ite (fun _ => .pure) fun _ =>
      .need (fun h => (hw h.1).1) fun _ => .need (fun h => by have := hw h.1; omega) fun _ =>
      .need (fun _ => by omega) fun _ => .pure
  cases hl : mtLimits p (pos + offset) with
  | none => exact .pure
  | some hops =>
    refine .chk (fun h => curCharsChk_ok (by omega) (by omega) h.2.2.1) <|
      .chk (fun ⟨hps, hoff, hsz, _, _, _, _, hit, htab⟩ => iterateChk_ok hoff hsz (by omega) hps.shift hit htab.2) ?_
    rw [← iterateRaw_fst]
    refine (matchLoopC_checked ..).mono fun ⟨_, _, hsz, hpos, hp1, hprev, hdepth, _, htab⟩ => ?_
    have := mtLimits_le hl (show 1 ≤ pos + offset by omega)
    exact ⟨by omega, iterateRaw_flags p plain offset htab.1, by omega, hdepth⟩

/-- the checks of `matchTokenC_checked` in the form `predictTokChk` calls them: the answer dropped, and depth
    and position bounds asked for only when a hash algorithm is configured -/
theorem matchTokenChk_ok {p : Params} {plain : Array Nat} {c : Chain} {pos offset prevLen maxDepth : Nat}
    (hps : ParamsSafe p) (hoff : offset ≤ 1) (hsz : plain.size < 2147483648)
    (hpos : pos + offset ≤ plain.size) (hp1 : 1 ≤ pos) (hprev : prevLen < 4294967295)
    (hdepth : p.hashAlg ≠ 0 → 1 ≤ maxDepth) (hit : p.hashAlg ≠ 0 → IterSafe c.totalShift pos)
    (htab : ChainTabInv p c pos) :
    matchTokenChk p plain c pos offset prevLen maxDepth = .ok () := by
  unfold matchTokenChk
  by_cases h0 : p.hashAlg = 0
  · unfold matchTokenC
    rw [if_pos h0]
  · rw [(matchTokenC_checked ..).ok ⟨hps, hoff, hsz, hpos, hp1, hprev, hdepth h0, hit h0, htab⟩]

theorem hopsLoopChk_ok {plain : Array Nat} {pos maxDist len : Nat} (target : Nat)
    (hlen : 3 ≤ len) (hrem : pos + len ≤ plain.size) (hmd : maxDist ≤ pos) (hsz : plain.size < 2147483648) :
    ∀ (raw : List (Nat × Bool)) (maxChain : Nat), DistsInRange raw →
      hopsLoopChk plain pos maxDist len target raw maxChain = .ok ()
  | [], _, _ => rfl
  | (d, okd) :: rest, maxChain, hraw => by
    obtain ⟨hok, hrest⟩ := List.forall_mem_cons.mp hraw
    rw [hopsLoopChk]
    refine need_bind hok <| ite_ok (fun _ => rfl) fun _ => ?_
    refine chk_bind (curCharsChk_ok (by omega) (by omega) hsz) <| need_bind (by omega) <|
      chk_bind (curCharsChk_ok (by omega) (by omega) hsz) <|
      chk_bind (prefixCompareChk_ok hlen (by omega) hrem (by omega)) ?_
    exact ite_ok (fun _ => rfl) fun _ => ite_ok (fun _ => rfl) fun _ =>
      hopsLoopChk_ok target hlen hrem hmd hsz rest _ hrest

theorem hopMatchLoopChk_ok {plain : Array Nat} {pos maxDist len : Nat} (hops : Nat)
    (hlen : 3 ≤ len) (hrem : pos + len ≤ plain.size) (hmd : maxDist ≤ pos) (hsz : plain.size < 2147483648) :
    ∀ (raw : List (Nat × Bool)) (cur : Nat), DistsInRange raw →
      hopMatchLoopChk plain pos maxDist len hops raw cur = .ok ()
  | [], _, _ => rfl
  | (d, okd) :: rest, cur, hraw => by
    obtain ⟨hok, hrest⟩ := List.forall_mem_cons.mp hraw
    have ih := fun cur => hopMatchLoopChk_ok hops hlen hrem hmd hsz rest cur hrest
    rw [hopMatchLoopChk]
    refine need_bind hok <| ite_ok (fun _ => rfl) fun _ => ?_
    refine chk_bind (curCharsChk_ok (by omega) (by omega) hsz) <|
      chk_bind (curCharsChk_ok (by omega) (by omega) hsz) <| need_bind (by omega) <|
      chk_bind (prefixCompareChk_ok hlen (by omega) hrem (by omega)) ?_
    exact ite_ok (fun _ => ite_ok (fun _ => rfl) fun _ => ih _) fun _ => ih _

/-- K1–K4 and the sites below them: `calculate_hops` for a target of length at least 3, when a hash
    algorithm is configured and `num_hash_bytes` bytes are left (this is what a preceding successful
    `match_token_0`, or a pending reference, guarantees) -/
theorem calcHopsChk_ok {p : Params} {plain : Array Nat} {s : PState Chain} {len : Nat} (dist : Nat)
    (hps : ParamsSafe p) (h0 : p.hashAlg ≠ 0) (hsz : plain.size < 2147483648)
    (hn : numHashBytes p ≤ plain.size - s.pos) (hlen : 3 ≤ len)
    (hit : IterSafe s.h.totalShift s.pos) (htab : ChainTabInv p s.h s.pos) :
    calcHopsChk p plain s len dist = .ok () := by
  have hnb := numHashBytes_ge3 p
  unfold calcHopsChk remainingChk
  rw [if_neg h0]
  refine need_bind (by omega) <| ite_ok (fun _ => rfl) fun _ =>
    chk_bind (iterateChk_ok (by omega) hsz hn hps.shift hit htab.2) ?_
  exact hopsLoopChk_ok dist hlen (by omega) (Nat.min_le_left _ _) hsz _ _ (iterateRaw_flags p plain 0 htab.1)

/-- J1–J4: `hop_match` (reconstruction side) for a length of at least 3. For `len < 3` the assertion
    P1 of `prefix_compare` (`max_len >= 3`) fails as soon as the chain has a candidate in range: the
    length comes from the correction stream, see `hopMatch_short_len_panics`. -/
theorem hopMatchChk_ok {p : Params} {plain : Array Nat} {s : PState Chain} {len : Nat} (hops : Nat)
    (hps : ParamsSafe p) (h0 : p.hashAlg ≠ 0) (hsz : plain.size < 2147483648)
    (hn : numHashBytes p ≤ plain.size - s.pos) (hlen : 3 ≤ len)
    (hit : IterSafe s.h.totalShift s.pos) (htab : ChainTabInv p s.h s.pos) :
    hopMatchChk p plain s len hops = .ok () := by
  have hnb := numHashBytes_ge3 p
  unfold hopMatchChk remainingChk
  rw [if_neg h0]
  refine need_bind (by omega) <| ite_ok (fun _ => rfl) fun _ =>
    chk_bind (iterateChk_ok (by omega) hsz hn hps.shift hit htab.2) ?_
  exact hopMatchLoopChk_ok hops hlen (by omega) (Nat.min_le_left _ _) hsz _ _ (iterateRaw_flags p plain 0 htab.1)

theorem updLoopChk_ok {hashChkAt : Nat → R Unit} {avail ipos L : Nat} (hav : L ≤ avail)
    (hh : ∀ i, i < L → hashChkAt i = .ok ()) (hpos : ipos + L ≤ 65535) :
    ∀ n i, i + n = L → updLoopChk hashChkAt avail ipos n i = .ok ()
  | 0, _, _ => rfl
  | n + 1, i, hi => by
    rw [updLoopChk]
    exact need_bind (by omega) <| chk_bind (hh i (by omega)) <| need_bind (by omega) <|
      updLoopChk_ok hav hh hpos n (i + 1) (by omega)

theorem updateChainChk_ok {hashChkAt : Nat → R Unit} {nbytes avail ipos length : Nat}
    (hlen : length ≤ avail) (hpos : ipos + length ≤ 65535)
    (hh : length + nbytes - 1 < avail → ∀ i, i < length → hashChkAt i = .ok ()) :
    updateChainChk hashChkAt nbytes avail ipos length = .ok () :=
  need_bind hlen <| ite_ok (fun _ => rfl) fun hc =>
    updLoopChk_ok hlen (hh (by omega)) hpos length 0 (by omega)

/-- C3, C5–C9, C1, C2 and the `get_hash` reads of one `HashChain::update_hash(pos0, length)`:
    `length` bytes are left at `pos0` and the position arithmetic is in range (`CallSafe`, which
    `Proofs/ChainBounds.lean` establishes along every run). The read at the end of the input is
    protected by the test `length + num_hash_bytes - 1 >= chars.len()`. -/
theorem updateChk_ok {p : Params} {plain : Array Nat} {c : Chain} {pos0 length : Nat}
    (hsh : p.hashAlg = 1 → p.hashShift < 16) (hsz : plain.size < 2147483648)
    (hl : length ≤ 384) (hend : pos0 + length ≤ plain.size)
    (hcs : CallSafe c.totalShift (pos0, length)) :
    updateChk p plain c pos0 length = .ok () := by
  obtain ⟨hc0, hc1⟩ := hcs
  dsimp only at hc0 hc1
  have hnb := numHashBytes_ge3 p
  -- C8, C9 are about the shift before the reshift test, everything after about the shift after it
  have h89 : inI32 ((pos0 : Int) - c.totalShift) ∧
      ((pos0 : Int) - c.totalShift ≥ 0xfe08 → inI32 (c.totalShift + 0x7e00)) := by
    rcases shiftStep_cases c.totalShift pos0 with ⟨e, _⟩ | ⟨e, _⟩
    all_goals exact ⟨inI32_of (by omega) (by omega), fun _ => inI32_of (by omega) (by omega)⟩
  unfold updateChk
  refine need_bind (by omega) <| need_bind h89.1 <|
    chk_bind (ite_ok (fun hge => need_ok (h89.2 hge)) fun _ => rfl) ?_
  dsimp only
  exact chk_bind (fromAbsChk_ok hc0 (by omega)) <|
    chk_bind (updateChainChk_ok (by omega) (by omega) fun _ i _ => hashChk_ok (by omega) hsh) <|
    ite_ok (fun _ => updateChainChk_ok (by omega) (by omega) fun _ i _ => need_ok (by omega)) fun _ => rfl

/-- M1, A1–A3 and everything below: `HashChainHolder::update_hash(length)` for a token of length
    1..258 that fits the input, from an internal position within `ChainInv`: whichever `update_hash`
    calls the add policy makes, each is in range (`callSafe_step`) -/
theorem policyUpdateChk_ok {p : Params} {plain : Array Nat} {c : Chain} {pos len : Nat}
    (hsh : p.hashAlg = 1 → p.hashShift < 16) (hsz : plain.size < 2147483648)
    (hl : 1 ≤ len ∧ len ≤ 258) (hend : pos + len ≤ plain.size)
    (hinv : p.hashAlg ≠ 0 → ChainInv c.totalShift pos) :
    policyUpdateChk p plain c pos len = .ok () := by
  unfold policyUpdateChk
  refine ite_ok (fun _ => rfl) fun h0 => need_bind (by omega) <|
    chk_bind (curCharsChk_ok (by omega) (by omega) hsz) ?_
  obtain ⟨hi0, hi1⟩ := hinv h0
  obtain ⟨c1, a1, b1⟩ := callSafe_step c.totalShift pos 1 hi0 hi1 (by omega)
  -- the call at the token start (one byte or the whole token), and the second call at its last byte
  have upd1 : updateChk p plain c pos 1 = .ok () := updateChk_ok hsh hsz (by omega) (by omega) c1
  have updL : updateChk p plain c pos len = .ok () :=
    updateChk_ok hsh hsz (by omega) hend (callSafe_step c.totalShift pos len hi0 hi1 hl.2).1
  have upd2 : (do
      need (len - 1 ≤ plain.size - pos) "A1 update_hash: &input[length - 1..]"
      need (pos + len < 4294967296 + 1) "A2 update_hash: pos + length - 1 (u32)"
      updateChk p plain (c.update p plain pos 1) (pos + len - 1) 1) = .ok () :=
    need_bind (by omega) <| need_bind (by omega) <| updateChk_ok hsh hsz (by omega) (by omega) <| by
      rw [update_totalShift]
      exact (callSafe_step _ (pos + len - 1) 1 (by omega) (by omega) (by omega)).1
  refine ite_ok (fun _ => upd1) fun _ => ?_
  split
  · exact updL
  · exact ite_ok (fun _ => updL) fun _ => upd1
  · exact ite_ok (fun _ => updL) fun _ => chk_bind upd1 upd2
  · exact ite_ok (fun _ => upd1) fun _ => rfl
  · exact chk_bind upd1 <| need_bind (by omega) <| ite_ok (fun _ => upd2) fun _ => rfl

theorem advanceChk_ok {plain : Array Nat} {pos l : Nat} (hsz : plain.size < 2147483648)
    (hend : pos + l ≤ plain.size) : advanceChk plain pos l = .ok () :=
  need_bind (inI32_of (by omega) (by omega)) (need_ok hend)

theorem commitChk_ok {p : Params} {plain : Array Nat} (s : PState Chain) {len : Nat}
    (hsh : p.hashAlg = 1 → p.hashShift < 16) (hsz : plain.size < 2147483648)
    (hl : 1 ≤ len ∧ len ≤ 258) (hend : s.pos + len ≤ plain.size)
    (hinv : p.hashAlg ≠ 0 → ChainInv s.h.totalShift s.pos) :
    commitChk p plain s len = .ok () :=
  chk_bind (policyUpdateChk_ok hsh hsz hl hend hinv) (advanceChk_ok hsz hend)

theorem updateChain_inv (t : Table) (hashf : Nat → Nat) (nbytes avail ipos length : Nat) (lim : Int)
    (ht : TableInv t lim) (hlim : lim ≤ ipos) (hpos : ipos + length ≤ 65536) :
    TableInv (updateChain t hashf nbytes avail ipos length) ((ipos : Int) + length) := by
  unfold updateChain
  by_cases hc : length + nbytes - 1 ≥ avail
  · rw [if_pos hc]
    exact ht.mono (by omega)
  rw [if_neg hc]
  dsimp only
  rw [Std.Legacy.Range.forIn_eq_forIn_range']
  simp only [Std.Legacy.Range.size, Nat.sub_zero, Nat.add_sub_cancel, Nat.div_one]
  -- after `i` insertions the frontier is `ipos + i`
  have h := forIn_range'_inv
    (fun i (st : Array Nat × Array Nat × Nat) =>
      st.2.2 = ipos + i ∧ TableInv ⟨st.1, st.2.1⟩ ((ipos + i : Nat) : Int))
    (fun i (__s : Array Nat × Array Nat × Nat) =>
      (pure (ForInStep.yield (__s.fst.set! (hashf i) __s.snd.snd,
        __s.snd.fst.set! __s.snd.snd __s.fst[hashf i]!, __s.snd.snd + 1)) : Id _))
    length 0 (t.head, t.prev, ipos) ⟨rfl, ht.mono (by omega)⟩ ?_
  · exact h.2.mono (by omega)
  · -- the inserted position joins the reachable set; its `prev` is the old head of its bucket
    intro i ⟨head, prev, pos⟩ _ hi ⟨hp, S, h1, h2⟩
    dsimp only at hp h1 h2
    refine ⟨_, rfl, by dsimp only; omega, fun j => S j ∨ j = pos, fun h => ?_, fun j hj => ?_⟩
    · dsimp only
      rw [get_set!]
      exact ite_both (P := fun x => x = 0 ∨ S x ∨ x = pos) (.inr (.inr rfl)) ((h1 h).imp_right .inl)
    · dsimp only
      rw [get_set!]
      rcases hj with hj | rfl
      · have := h2 j hj
        rw [if_neg (by omega)]
        exact ⟨by omega, this.2.1, this.2.2.imp_right .inl⟩
      · refine ⟨by omega, by omega, ?_⟩
        by_cases hb : j < prev.size
        · rw [if_pos ⟨rfl, hb⟩]
          exact (h1 (hashf i)).imp_right .inl
        · rw [if_neg (fun h => hb h.2)]
          exact .inl (get!_oob prev j hb)

theorem reshift_inv (t : Table) (delta : Nat) (lim : Int) (ht : TableInv t lim) (hd : delta ≤ 65536) :
    TableInv (t.reshift delta) (lim - delta) := by
  unfold Table.reshift
  dsimp only
  rw [Std.Legacy.Range.forIn_eq_forIn_range']
  simp only [Std.Legacy.Range.size, Nat.add_sub_cancel, Nat.div_one, bind_pure]
  -- the shifted copy of `prev`, entry by entry (an entry the loop could not write is 0)
  have h := forIn_range'_inv
    (fun i (pv : Array Nat) => ∀ j : Nat, j + delta < i → (pv[j]! = t.prev[j + delta]! - delta ∨ pv[j]! = 0))
    (fun i (__s : Array Nat) => (pure (ForInStep.yield (__s.set! (i - delta) (t.prev[i]! - delta))) : Id _))
    (65536 - delta) delta t.prev ?_ ?_
  · rw [show delta + (65536 - delta) = 65536 by omega] at h
    obtain ⟨S, h1, h2⟩ := ht
    -- an entry `x` of the old tables becomes `x - delta`: 0, or reachable in the shifted set
    have sub : ∀ x, x = 0 ∨ S x → x - delta = 0 ∨ S (x - delta + delta) := by
      intro x hx
      by_cases hle : x ≤ delta
      · exact .inl (by omega)
      · rw [show x - delta + delta = x by omega]
        exact hx.imp_left (by omega)
    refine ⟨fun j => S (j + delta), fun hh => ?_, fun j hj => ?_⟩
    · rw [get!_map _ (fun x => x - delta) (by simp)]
      exact sub _ (h1 hh)
    · have hS := h2 (j + delta) hj
      refine ⟨by omega, by omega, ?_⟩
      rcases h j (by omega) with h' | h'
      · rw [h']
        exact sub _ hS.2.2
      · exact .inl h'
  · intro j hj
    omega
  · intro i pv hi1 hi2 hinv
    refine ⟨_, rfl, fun j hj => ?_⟩
    rw [get_set!]
    by_cases hji : j + delta = i
    · by_cases hb : i - delta < pv.size
      · rw [if_pos ⟨by omega, hb⟩, ← hji]
        exact .inl rfl
      · rw [if_neg (fun h => hb h.2)]
        exact .inr (get!_oob pv j (by omega))
    · rw [if_neg (by omega)]
      exact hinv j (by omega)

theorem tableInv_empty (lim : Int) : TableInv Table.empty lim :=
  ⟨fun _ => False, fun _ => .inl (get!_replicate_zero ..), nofun⟩

theorem chainTabInv_init (p : Params) (pos : Nat) : ChainTabInv p Chain.init pos :=
  ⟨tableInv_empty _, fun _ => tableInv_empty _⟩

/-- the reshift test of `update_hash` moves tables and shift together -/
theorem reshiftStep_tabInv (p : Params) (c : Chain) (pos0 : Nat) (h : ChainTabInv p c pos0) :
    let c' : Chain := if (pos0 : Int) - c.totalShift ≥ 0xfe08 then
        ⟨c.t.reshift 0x7e00, if p.hashAlg = 3 then c.t3.reshift 0x7e00 else c.t3, c.totalShift + 0x7e00⟩
      else c
    ChainTabInv p c' pos0 ∧ c'.totalShift = shiftStep c.totalShift pos0 := by
  unfold shiftStep
  by_cases hge : (pos0 : Int) - c.totalShift ≥ 0xfe08
  · rw [if_pos hge, if_pos hge]
    refine ⟨⟨(reshift_inv c.t 32256 _ h.1 (by omega)).mono (by dsimp only; omega), fun h3 => ?_⟩, rfl⟩
    dsimp only
    rw [if_pos h3]
    exact (reshift_inv c.t3 32256 _ (h.2 h3) (by omega)).mono (by omega)
  · rw [if_neg hge, if_neg hge]
    exact ⟨h, rfl⟩

theorem update_tabInv (p : Params) (plain : Array Nat) (c : Chain) (pos0 length : Nat)
    (h : ChainTabInv p c pos0) (hcs : CallSafe c.totalShift (pos0, length)) :
    ChainTabInv p (c.update p plain pos0 length) (pos0 + length) := by
  obtain ⟨hc0, hc1⟩ := hcs
  dsimp only at hc0 hc1
  unfold Chain.update
  dsimp only
  obtain ⟨⟨ht, ht3⟩, e⟩ := reshiftStep_tabInv p c pos0 h
  rw [← e] at hc0 hc1
  -- `c'`: the chain after the reshift test
  generalize (if (pos0 : Int) - c.totalShift ≥ 0xfe08 then
      (⟨c.t.reshift 0x7e00, if p.hashAlg = 3 then c.t3.reshift 0x7e00 else c.t3, c.totalShift + 0x7e00⟩ : Chain)
    else c) = c' at ht ht3 hc0 hc1 ⊢
  have upd : ∀ (t : Table) (hashf : Nat → Nat) (nbytes : Nat), TableInv t ((pos0 : Int) - c'.totalShift) →
      TableInv (updateChain t hashf nbytes (plain.size - pos0) ((pos0 : Int) - c'.totalShift).toNat length)
        (((pos0 + length : Nat) : Int) - c'.totalShift) := fun t hashf nbytes ht =>
    (updateChain_inv t hashf nbytes _ _ length _ ht (by omega) (by omega)).mono (by omega)
  by_cases h3 : p.hashAlg = 3
  · rw [if_pos h3]
    exact ⟨upd _ _ _ ht, fun _ => upd _ _ _ (ht3 h3)⟩
  · rw [if_neg h3]
    exact ⟨upd _ _ _ ht, fun h3' => absurd h3' h3⟩

theorem policyUpdate_tabInv (p : Params) (plain : Array Nat) (c : Chain) (pos len : Nat)
    (hl : 1 ≤ len) (h : ChainTabInv p c pos)
    (hcs : CallsSafe c.totalShift (updateCalls p pos len)) :
    ChainTabInv p (policyUpdate p plain c pos len) (pos + len) := by
  rw [policyUpdate_eq_calls]
  rcases updateCalls_shape p pos len with ⟨e, _⟩ | e | e | ⟨h1, e⟩
  all_goals rw [e] at hcs ⊢
  · exact h.mono (by omega)
  · exact (update_tabInv p plain c pos 1 h hcs.1).mono (by omega)
  · exact update_tabInv p plain c pos len h hcs.1
  · show ChainTabInv p ((c.update p plain pos 1).update p plain (pos + len - 1) 1) (pos + len)
    have a1 := (update_tabInv p plain c pos 1 h hcs.1).mono (show pos + 1 ≤ pos + len - 1 by omega)
    have a2 := update_tabInv p plain _ (pos + len - 1) 1 a1 (by rw [update_totalShift]; exact hcs.2.1)
    exact a2.mono (by omega)

/-- the documented exclusion (history (ii)): lazy matching with `zlib_compatible` quarters the chain
    depth for a "good" first match (`len >= good_length`, which can only happen for a `len` in 3..258
    below `max_lazy`); a depth of 0 underflows `max_chain -= 1` (M13) -/
def LazyDepthOK (p : Params) : Prop :=
  p.isLazy = true → p.zlibCompatible = true →
    (∃ len, 3 ≤ len ∧ len ≤ 258 ∧ p.goodLength ≤ len ∧ len < p.maxLazy) → 4 ≤ p.maxChain

theorem lazyDepthOK_of_simple (p : Params)
    (h : p.isLazy = true ∧ p.zlibCompatible = true → 4 ≤ p.maxChain) : LazyDepthOK p :=
  fun h1 h2 _ => h ⟨h1, h2⟩

/-- `pending_reference` was produced by a successful `match_token_1` one position earlier -/
def PendInv (p : Params) (plain : Array Nat) (pos : Nat) (pend : Option (Nat × Nat)) : Prop :=
  ∀ l d, pend = some (l, d) →
    p.hashAlg ≠ 0 ∧ 1 ≤ pos ∧ numHashBytes p ≤ plain.size - pos ∧ l ≤ 258

theorem pendInv_none (p : Params) (plain : Array Nat) (pos : Nat) : PendInv p plain pos none :=
  nofun

/-- T1, T2 and the two `match_token_offset` calls of `predict_token` -/
theorem predictTokChk_ok {p : Params} {plain : Array Nat} {s : PState Chain}
    (hps : ParamsSafe p) (hlz : LazyDepthOK p) (hsz : plain.size < 2147483648)
    (hpos : s.pos < plain.size) (hit : p.hashAlg ≠ 0 → IterSafe s.h.totalShift s.pos)
    (htab : ChainTabInv p s.h s.pos) (hpend : PendInv p plain s.pos s.pending) :
    predictTokChk p plain s = .ok () := by
  have hcc : curCharChk plain s.pos = .ok () := need_ok hpos
  unfold predictTokChk remainingChk
  refine ite_ok (fun _ => hcc) fun hp0 => need_bind (by omega) <| ite_ok (fun _ => hcc) fun hrem => ?_
  have hmt : ∀ offset prevLen depth, offset ≤ 1 → prevLen ≤ 258 → (p.hashAlg ≠ 0 → 1 ≤ depth) →
      matchTokenChk p plain s.h s.pos offset prevLen depth = .ok () := fun offset prevLen depth ho hl hd =>
    matchTokenChk_ok hps ho hsz (by omega) (by omega) (by omega) hd hit htab
  -- the part after the first match `(len, dist)`
  have tail : ∀ len dist, len ≤ 258 →
      (if len < 3 then curCharChk plain s.pos
        else if len = 3 ∧ dist > p.maxDist3 then curCharChk plain s.pos
        else if p.isLazy ∧ len < p.maxLazy ∧ plain.size - s.pos ≥ len + 2 then do
          let depth := if p.zlibCompatible ∧ len ≥ p.goodLength then p.maxChain >>> 2 else p.maxChain
          matchTokenChk p plain s.h s.pos 1 len depth
          match matchToken p plain s.h s.pos 1 len depth with
          | .success l2 _ => if l2 > len then curCharChk plain s.pos else .ok ()
          | .none => .ok ()
        else .ok ()) = .ok () := by
    intro len dist hlen
    refine ite_ok (fun _ => hcc) fun hl3 => ite_ok (fun _ => hcc) fun _ => ite_ok (fun hlazy => ?_) fun _ => rfl
    -- the quartered depth is at least 1: this is where `LazyDepthOK` is needed
    have hdepth : p.hashAlg ≠ 0 →
        1 ≤ (if p.zlibCompatible = true ∧ len ≥ p.goodLength then p.maxChain >>> 2 else p.maxChain) := by
      intro h0
      by_cases hz : p.zlibCompatible = true ∧ len ≥ p.goodLength
      · have := hlz hlazy.1 hz.1 ⟨len, by omega, hlen, hz.2, hlazy.2.1⟩
        rw [if_pos hz, Nat.shiftRight_eq_div_pow]
        exact Nat.div_le_div_right (c := 2 ^ 2) this
      · rw [if_neg hz]
        exact hps.chain h0
    refine chk_bind (hmt 1 len _ (by omega) hlen hdepth) ?_
    split
    · exact ite_ok (fun _ => hcc) fun _ => rfl
    · rfl
  cases hp : s.pending with
  | none =>
    refine chk_bind (hmt 0 0 _ (by omega) (by omega) hps.chain) ?_
    cases hm : matchToken p plain s.h s.pos 0 0 p.maxChain with
    | none => exact hcc
    | success len dist => exact tail len dist (matchToken_len_le hm)
  | some ld => exact tail ld.1 ld.2 (hpend _ _ hp).2.2.2

/-- T4 and the `match_token_0` call of `repredict_reference` -/
theorem repredictTokChk_ok {p : Params} {plain : Array Nat} (s : PState Chain)
    (hps : ParamsSafe p) (hsz : plain.size < 2147483648)
    (hpos : s.pos ≤ plain.size) (hit : p.hashAlg ≠ 0 → IterSafe s.h.totalShift s.pos)
    (htab : ChainTabInv p s.h s.pos) :
    repredictTokChk p plain s = .ok () := by
  unfold repredictTokChk remainingChk
  exact ite_ok (fun _ => rfl) fun hp0 => need_bind hpos <| ite_ok (fun _ => rfl) fun _ =>
    matchTokenChk_ok hps (by omega) hsz (by omega) (by omega) (by omega) hps.chain hit htab

theorem repredictTok_facts {p : Params} {plain : Array Nat} {s : PState Chain} {l d : Nat}
    (h : repredictTok p plain s = .ok (l, d)) :
    p.hashAlg ≠ 0 ∧ numHashBytes p ≤ plain.size - s.pos :=
  have := matchToken_success_facts (repredictTok_ok h).1
  ⟨this.1, this.2.1⟩

/-- what `predict_token` answers: a new pending reference satisfies the invariant one position
    later; a predicted reference means a hash algorithm is configured and `num_hash_bytes` bytes are
    left (it came from a successful `match_token_0` or from the pending reference), and leaves no
    pending reference -/
theorem predictTok_facts (p : Params) (plain : Array Nat) (s : PState Chain)
    (hpend : PendInv p plain s.pos s.pending) :
    PendInv p plain (s.pos + 1) (predictTok p plain s).2 ∧
    (∀ l d, (predictTok p plain s).1 = .ref l d →
      p.hashAlg ≠ 0 ∧ numHashBytes p ≤ plain.size - s.pos ∧ (predictTok p plain s).2 = none) := by
  have hnb := numHashBytes_ge3 p
  have h := predictTok_ans p plain s
  generalize predictTok p plain s = r at h ⊢
  cases h with
  | edge hex =>
    -- no pending reference can exist here
    refine ⟨fun l d hp => ?_, fun l d h => by cases h⟩
    have := hpend l d hp
    exfalso
    omega
  | lit => exact ⟨pendInv_none _ _ _, fun l d h => by cases h⟩
  | ref len dist hm =>
    refine ⟨pendInv_none _ _ _, fun l d _ => ?_⟩
    rcases hm with hm | ⟨_, hm⟩
    · have := hpend len dist hm
      exact ⟨this.1, this.2.2.1, rfl⟩
    · have := matchToken_success_facts hm
      exact ⟨this.1, this.2.1, rfl⟩
  | lazy len depth l2 d2 hm =>
    refine ⟨fun l d h => ?_, fun l d h => by cases h⟩
    cases h
    have := matchToken_success_facts hm
    exact ⟨this.1, by omega, by omega, matchToken_len_le hm⟩

/-- the invariant of the predictor state at a token start -/
structure RunInv (p : Params) (plain : Array Nat) (s : PState Chain) : Prop where
  chain : p.hashAlg ≠ 0 → ChainInv s.h.totalShift s.pos
  tabs : ChainTabInv p s.h s.pos
  pend : PendInv p plain s.pos s.pending

theorem runInv_commit (p : Params) (plain : Array Nat) (s : PState Chain) (t : Token) (pd : Option (Nat × Nat))
    (hinv : RunInv p plain s) (hl : 1 ≤ tokenLen t ∧ tokenLen t ≤ 258)
    (h4k : p.addPolicy = 3 → tokenLen t > 1 → (s.pos &&& 4095) < 4093)
    (hpd : PendInv p plain (s.pos + tokenLen t) pd) :
    RunInv p plain (commit (pred p) plain { s with pending := pd } t) := by
  have hstep := fun h0 => chain_step_safe p h0 s.h.totalShift s.pos (tokenLen t) (hinv.chain h0) hl h4k
  refine ⟨fun h0 => ?_, policyUpdate_tabInv p plain s.h s.pos (tokenLen t) hl.1 hinv.tabs ?_, hpd⟩
  · show ChainInv (policyUpdate p plain s.h s.pos (tokenLen t)).totalShift (s.pos + tokenLen t)
    rw [policyUpdate_totalShift]
    exact (hstep h0).2.2
  · by_cases h0 : p.hashAlg = 0
    · rw [show updateCalls p s.pos (tokenLen t) = [] by simp [updateCalls, h0]]
      trivial
    · exact (hstep h0).2.1

theorem RunInv.iterSafe {p : Params} {plain : Array Nat} {s : PState Chain} (h : RunInv p plain s)
    (h0 : p.hashAlg ≠ 0) : IterSafe s.h.totalShift s.pos :=
  (h.chain h0).iterSafe

/-- what `encTokChk` and `decTokChk` both begin with at a valid token: `predict_token` is safe, and so is
    committing the token, whatever is left pending -/
theorem RunInv.tokStep {p : Params} {plain : Array Nat} {s : PState Chain} {t : Token}
    (hinv : RunInv p plain s) (hps : ParamsSafe p) (hlz : LazyDepthOK p) (hsz : plain.size < 2147483648)
    (hv : ValidTok plain s.pos t) :
    s.pos < plain.size ∧ predictTokChk p plain s = .ok () ∧
    ∀ pd : Option (Nat × Nat), commitChk p plain { s with pending := pd } (tokenLen t) = .ok () := by
  obtain ⟨hl1, hl2, hend⟩ := validTok_len plain s.pos t hv
  exact ⟨by omega, predictTokChk_ok hps hlz hsz (by omega) hinv.iterSafe hinv.tabs hinv.pend,
    fun pd => commitChk_ok { s with pending := pd } hps.shift hsz ⟨hl1, hl2⟩ hend hinv.chain⟩

theorem encTokChk_ok {p : Params} {plain : Array Nat} {s : PState Chain} {t : Token}
    (hps : ParamsSafe p) (hlz : LazyDepthOK p) (hsz : plain.size < 2147483648)
    (hv : ValidTok plain s.pos t) (hinv : RunInv p plain s) :
    encTokChk p plain s t = .ok () := by
  obtain ⟨hpos, hpred, hcommit⟩ := hinv.tokStep hps hlz hsz hv
  have hpf := (predictTok_facts p plain s hinv.pend).2
  unfold encTokChk
  refine chk_bind hpred ?_
  rcases hp : predictTok p plain s with ⟨pt, pend⟩
  rw [hp] at hpf
  dsimp only at hpf ⊢
  cases t with
  | lit b => exact hcommit pend
  | ref len dist irr =>
    -- `calculate_hops`, and the commit if it answers
    have hhops : ∀ pd : Option (Nat × Nat), p.hashAlg ≠ 0 → numHashBytes p ≤ plain.size - s.pos → (do
        calcHopsChk p plain { s with pending := pd } len dist
        match calcHops (pred p) plain { s with pending := pd } len dist with
        | .error _ => .ok ()
        | .ok _ => commitChk p plain { s with pending := pd } len) = .ok () := by
      intro pd h0 hn
      refine chk_bind (calcHopsChk_ok (s := { s with pending := pd }) dist hps h0 hsz hn hv.1 (hinv.iterSafe h0) hinv.tabs) ?_
      split
      · rfl
      · exact hcommit pd
    cases pt with
    | lit =>
      refine chk_bind (repredictTokChk_ok { s with pending := pend } hps hsz (Nat.le_of_lt hpos)
        hinv.iterSafe hinv.tabs) ?_
      cases hr : repredictTok p plain { s with pending := pend } with
      | error e => rfl
      | ok ld =>
        have hf := repredictTok_facts hr
        exact ite_ok (fun _ => hhops none hf.1 hf.2) fun _ => hcommit none
    | ref plen pdist =>
      have hf := hpf plen pdist rfl
      exact ite_ok (fun _ => hhops pend hf.1 hf.2.1) fun _ => hcommit pend

theorem encTok_runInv (p : Params) (plain : Array Nat) (s : PState Chain) (t : Token)
    (hv : ValidTok plain s.pos t) (hinv : RunInv p plain s)
    (h4k : p.addPolicy = 3 → tokenLen t > 1 → (s.pos &&& 4095) < 4093)
    (ops : List Op) (s' : PState Chain) (he : encTok (pred p) plain s t = .ok (ops, s')) :
    RunInv p plain s' ∧ s'.pos = s.pos + tokenLen t := by
  obtain ⟨hl1, hl2, hend⟩ := validTok_len plain s.pos t hv
  obtain ⟨hpf1, hpf2⟩ := predictTok_facts p plain s hinv.pend
  refine ⟨?_, (encTok_state (pred p) plain s t ops s' he).1⟩
  obtain ⟨pd, rfl, hpd⟩ := encTok_commit (pred p) plain s t ops s' he
  refine runInv_commit p plain s t pd hinv ⟨hl1, hl2⟩ h4k ?_
  rcases hpd with rfl | ⟨rfl, hc⟩
  · exact pendInv_none _ _ _
  · rcases hc with ⟨b, rfl⟩ | ⟨l, d, hld⟩
    · exact hpf1
    · have := (hpf2 l d hld).2.2
      show PendInv p plain (s.pos + tokenLen t) (predictTok p plain s).2
      rw [this]
      exact pendInv_none _ _ _

theorem sum_blockLens (b : Block) (pos : Nat) : pos + (blockLens b).sum = blockEnd pos b := by
  cases b with
  | stored pad data => simp [blockLens, blockEnd]
  | fixed ts => exact sum_map_tokenLen ts pos
  | dynamic h ts => exact sum_map_tokenLen ts pos

theorem noRefAt4k_append (a b : List Nat) (pos : Nat) :
    NoRefAt4k pos (a ++ b) ↔ NoRefAt4k pos a ∧ NoRefAt4k (pos + a.sum) b := by
  induction a generalizing pos with
  | nil => simp [NoRefAt4k]
  | cons x a ih => simp only [List.cons_append, NoRefAt4k, ih, List.sum_cons, Nat.add_assoc, and_assoc]

theorem noRefAt4k_cons_block (b : Block) (rest : List Block) (pos : Nat)
    (h : NoRefAt4k pos (streamLens (b :: rest))) :
    NoRefAt4k pos (blockLens b) ∧ NoRefAt4k (blockEnd pos b) (streamLens rest) := by
  rw [← sum_blockLens]
  exact (noRefAt4k_append _ _ _).mp (by simpa [streamLens] using h)

theorem encToks_runInv (p : Params) (plain : Array Nat) :
    ∀ (ts : List Token) (s : PState Chain) (ops : List Op) (s' : PState Chain), ValidToks plain s.pos ts →
      RunInv p plain s → (p.addPolicy = 3 → NoRefAt4k s.pos (ts.map tokenLen)) →
      encToks (pred p) plain s ts = .ok (ops, s') → RunInv p plain s'
  | [], _, _, _, _, hinv, _, he => by
    cases he
    exact hinv
  | t :: ts, s, _, s', hv, hinv, h4k, he => by
    rw [encToks] at he
    obtain ⟨⟨a, s1⟩, h1, he⟩ := (bind_eq_ok ..).mp he
    obtain ⟨⟨b, s2⟩, h2, he⟩ := (bind_eq_ok ..).mp he
    cases he
    obtain ⟨hinv1, hpos1⟩ := encTok_runInv p plain s t hv.1 hinv (fun h3 => (h4k h3).1) a s1 h1
    exact encToks_runInv p plain ts s1 b s' (hpos1 ▸ hv.2) hinv1 (fun h3 => hpos1 ▸ (h4k h3).2) h2

theorem encToksChk_ok {p : Params} {plain : Array Nat}
    (hps : ParamsSafe p) (hlz : LazyDepthOK p) (hsz : plain.size < 2147483648) :
    ∀ (ts : List Token) (s : PState Chain), ValidToks plain s.pos ts → RunInv p plain s →
      (p.addPolicy = 3 → NoRefAt4k s.pos (ts.map tokenLen)) → encToksChk p plain s ts = .ok ()
  | [], _, _, _, _ => rfl
  | t :: ts, s, hv, hinv, h4k => by
    have h4t : p.addPolicy = 3 → tokenLen t > 1 → (s.pos &&& 4095) < 4093 := fun h3 => (h4k h3).1
    rw [encToksChk]
    refine chk_bind (encTokChk_ok hps hlz hsz hv.1 hinv) ?_
    cases he : encTok (pred p) plain s t with
    | error e => rfl
    | ok r =>
      obtain ⟨hinv1, hpos1⟩ := encTok_runInv p plain s t hv.1 hinv h4t r.1 r.2 he
      exact encToksChk_ok hps hlz hsz ts r.2 (hpos1 ▸ hv.2) hinv1 (fun h3 => hpos1 ▸ (h4k h3).2)

theorem storedStep_ok {p : Params} {plain : Array Nat} (hps : ParamsSafe p) (hsz : plain.size < 2147483648)
    (s : PState Chain) (hend : s.pos + 1 ≤ plain.size) (hpn : s.pending = none) (hinv : RunInv p plain s) :
    commitChk p plain s 1 = .ok () ∧
    RunInv p plain { s with h := policyUpdate p plain s.h s.pos 1, pos := s.pos + 1 } := by
  have hl : 1 ≤ 1 ∧ 1 ≤ 258 := by omega
  have h4 : p.addPolicy = 3 → 1 > 1 → (s.pos &&& 4095) < 4093 := fun _ h => absurd h (by omega)
  have := runInv_commit p plain s (.lit 0) none hinv hl h4 (pendInv_none _ _ _)
  exact ⟨commitChk_ok s hps.shift hsz hl hend hinv.chain, this.chain, this.tabs, hpn ▸ pendInv_none _ _ _⟩

theorem commitStoredChk_ok {p : Params} {plain : Array Nat}
    (hps : ParamsSafe p) (hsz : plain.size < 2147483648) :
    ∀ (n : Nat) (s : PState Chain), s.pos + n ≤ plain.size → s.pending = none → RunInv p plain s →
      commitStoredChk p plain n s = .ok () ∧ RunInv p plain (commitStored (pred p) plain n s)
  | 0, _, _, _, hinv => ⟨rfl, hinv⟩
  | n + 1, s, hend, hpn, hinv => by
    obtain ⟨hchk, hnext⟩ := storedStep_ok hps hsz s (by omega) hpn hinv
    have hrec := commitStoredChk_ok hps hsz n
      { s with h := policyUpdate p plain s.h s.pos 1, pos := s.pos + 1 } (by dsimp only; omega) hpn hnext
    exact ⟨chk_bind hchk hrec.1, hrec.2⟩

/-- `predict_block` starts from `current_token_count = 0` and no pending reference -/
theorem RunInv.blockStart {p : Params} {plain : Array Nat} {s : PState Chain} (h : RunInv p plain s) :
    RunInv p plain { s with count := 0, pending := none } :=
  ⟨h.chain, h.tabs, pendInv_none _ _ _⟩

theorem encBlock_runInv {p : Params} {plain : Array Nat} (hps : ParamsSafe p) (hsz : plain.size < 2147483648)
    {s : PState Chain} {b : Block} {last : Bool} {ops : List Op} {s' : PState Chain}
    (hv : ValidBlock plain s.pos b) (hinv : RunInv p plain s)
    (h4k : p.addPolicy = 3 → NoRefAt4k s.pos (blockLens b))
    (he : encBlock (pred p) plain s b last = .ok (ops, s')) : RunInv p plain s' := by
  cases b with
  | stored pad data =>
    cases he
    exact (commitStoredChk_ok hps hsz data.length { s with count := 0, pending := none } hv.2.2.1 rfl hinv.blockStart).2
  | fixed ts =>
    obtain ⟨_, _, _, ht, _⟩ := encTokBlock_ok he
    exact encToks_runInv p plain ts { s with count := 0, pending := none } _ _ hv.1 hinv.blockStart h4k ht
  | dynamic h ts =>
    obtain ⟨_, _, _, ht, _⟩ := encTokBlock_ok he
    exact encToks_runInv p plain ts { s with count := 0, pending := none } _ _ hv.1 hinv.blockStart h4k ht

theorem encBlockChk_ok {p : Params} {plain : Array Nat}
    (hps : ParamsSafe p) (hlz : LazyDepthOK p) (hsz : plain.size < 2147483648)
    {s : PState Chain} {b : Block} (hv : ValidBlock plain s.pos b) (hinv : RunInv p plain s)
    (h4k : p.addPolicy = 3 → NoRefAt4k s.pos (blockLens b)) :
    encBlockChk p plain s b = .ok () := by
  cases b with
  | stored pad data => exact (commitStoredChk_ok hps hsz data.length { s with count := 0, pending := none } hv.2.2.1 rfl hinv.blockStart).1
  | fixed ts => exact encToksChk_ok hps hlz hsz ts { s with count := 0, pending := none } hv.1 hinv.blockStart h4k
  | dynamic h ts => exact encToksChk_ok hps hlz hsz ts { s with count := 0, pending := none } hv.1 hinv.blockStart h4k

theorem encBlocksChk_ok {p : Params} {plain : Array Nat}
    (hps : ParamsSafe p) (hlz : LazyDepthOK p) (hsz : plain.size < 2147483648) :
    ∀ (blocks : List Block) (s : PState Chain), ValidBlocks plain s.pos blocks → RunInv p plain s →
      (p.addPolicy = 3 → NoRefAt4k s.pos (streamLens blocks)) →
      encBlocksChk p plain s blocks = .ok ()
  | [], _, _, _, _ => rfl
  | b :: rest, s, hv, hinv, h4k => by
    have h4s := fun h3 => noRefAt4k_cons_block b rest s.pos (h4k h3)
    rw [encBlocksChk]
    refine chk_bind (encBlockChk_ok hps hlz hsz hv.1 hinv fun h3 => (h4s h3).1) ?_
    cases he : encBlock (pred p) plain s b rest.isEmpty with
    | error e => rfl
    | ok r =>
      have hpos1 : r.2.pos = blockEnd s.pos b := encBlock_pos he
      exact encBlocksChk_ok hps hlz hsz rest r.2 (hpos1 ▸ hv.2)
        (encBlock_runInv hps hsz hv.1 hinv (fun h3 => (h4s h3).1) he) (fun h3 => hpos1 ▸ (h4s h3).2)

theorem holderNewChk_ok {p : Params} (hps : ParamsSafe p) : holderNewChk p = .ok () :=
  ite_ok (fun _ => rfl) fun h0 => need_ok (by have := (hps.window h0).2; omega)

theorem runInv_init (p : Params) (plain : Array Nat) : RunInv p plain ⟨Chain.init, none, 0, 0⟩ :=
  ⟨fun _ => by unfold ChainInv Chain.init; simp only []; omega, chainTabInv_init p 0, pendInv_none _ _ _⟩

/-- Driving the predictor over a valid stream (`TokenPredictor::new`, then
    `predict_block` for every block, as `encStream (pred p)` does) reaches none of the panic sites
    listed in `Model/ChainsSafe.lean`, provided
    * the plaintext is shorter than 2^31 bytes (`PreflateInput::pos` is an `i32`),
    * the parameter vector is in the estimator's range,
    * lazy matching with `zlib_compatible` is not combined with a chain depth below 4 when a "good"
      length can occur (`LazyDepthOK`; `EstimatorRange` does not exclude this — see
      `estimatorRange_not_lazyDepthOK`, `max_chain_underflow_at_depth0`),
    * for the 4 KiB-boundary add policy, no reference starts in the last three bytes of a 4 KiB page
      (the estimator's own side condition, as in `chain_positions_in_u16_partial`). -/
theorem encStreamChk_ok (p : Params) (plain : Array Nat) (blocks : List Block)
    (hr : EstimatorRange p) (hlz : LazyDepthOK p) (hsz : plain.size < 2147483648)
    (hv : StreamValid plain blocks)
    (h4k : p.addPolicy = 3 → NoRefAt4k 0 (streamLens blocks)) :
    encStreamChk p plain blocks = .ok () :=
  have hps := paramsSafe_of_estimatorRange p hr
  chk_bind (holderNewChk_ok hps)
    (encBlocksChk_ok hps hlz hsz blocks ⟨Chain.init, none, 0, 0⟩ hv.2.1 (runInv_init p plain) h4k)

/-- History (i), the defect that the `if best_len >= max_len { break }` of the current source repairs:
    three bytes left (`max_len = 3`), the first candidate matches all three but is too far for a
    3-byte match (`dist > max_dist_3_matches`), so it is recorded (`best_len = 3 = max_len`) and the loop
    goes on; WITHOUT the break the next candidate reaches `prefix_compare` with `best_len == max_len`
    and trips its assertion (in the source of that time: the index `s2[best_len]`). -/
theorem prefix_compare_defect_without_break (p : Params) (plain : Array Nat)
    (startPos nice hop0 hop1 d1 d2 maxChain : Nat) (rest : List (Nat × Bool)) (best : MatchResult)
    (hsz : startPos + 3 ≤ plain.size) (hs : startPos < 2147483648)
    (hd1 : d1 ≤ hop0) (hd1s : d1 ≤ startPos) (hd2 : d2 ≤ hop1) (hd2s : d2 ≤ startPos)
    (h0 : byteAt plain (startPos - d1) = byteAt plain startPos)
    (h1 : byteAt plain (startPos - d1 + 1) = byteAt plain (startPos + 1))
    (h2 : byteAt plain (startPos - d1 + 2) = byteAt plain (startPos + 2))
    (hfar : d1 > p.maxDist3) (hchain : 2 ≤ maxChain) :
    matchLoopC false p plain startPos 3 nice hop0 hop1 ((d1, true) :: (d2, true) :: rest) true 0 maxChain best =
      .error (.panic
        "P1 prefix_compare: assert!(max_len >= 3 && s1.len() >= max_len && s2.len() >= max_len && best_len < max_len)") := by
  unfold matchLoopC
  rw [need_bind rfl rfl, if_neg (by omega), if_neg (by simp), need_bind (inI32_of (by omega) (by omega)) rfl,
    need_bind hd1s rfl, chk_bind (prefixCompareChk_ok (by omega) (by omega) hsz (by omega)) rfl,
    prefixCompare_three plain (startPos - d1) startPos 0 (by omega) h0 h1 h2]
  dsimp only
  rw [if_pos (by omega), need_bind (by omega) rfl, if_neg (by omega), if_neg (by simp), need_bind (by omega) rfl,
    if_neg (by omega)]
  unfold matchLoopC
  rw [need_bind rfl rfl, if_neg (by simp), if_neg (by omega), need_bind (inI32_of (by omega) (by omega)) rfl,
    need_bind hd2s rfl, prefixCompareChk_P1 plain (startPos - d2) startPos 3 3 (by omega)]
  rfl

/-- … and WITH the break the same situation answers the 3-byte match -/
theorem prefix_compare_defect_repaired (p : Params) (plain : Array Nat)
    (startPos nice hop0 hop1 d1 maxChain : Nat) (rest : List (Nat × Bool)) (best : MatchResult)
    (hsz : startPos + 3 ≤ plain.size) (hs : startPos < 2147483648)
    (hd1 : d1 ≤ hop0) (hd1s : d1 ≤ startPos)
    (h0 : byteAt plain (startPos - d1) = byteAt plain startPos)
    (h1 : byteAt plain (startPos - d1 + 1) = byteAt plain (startPos + 1))
    (h2 : byteAt plain (startPos - d1 + 2) = byteAt plain (startPos + 2))
    (hfar : d1 > p.maxDist3) :
    matchLoopC true p plain startPos 3 nice hop0 hop1 ((d1, true) :: rest) true 0 maxChain best =
      .ok (.success 3 d1) := by
  unfold matchLoopC
  rw [need_bind rfl rfl, if_neg (by omega), if_neg (by simp), need_bind (inI32_of (by omega) (by omega)) rfl,
    need_bind hd1s rfl, chk_bind (prefixCompareChk_ok (by omega) (by omega) hsz (by omega)) rfl,
    prefixCompare_three plain (startPos - d1) startPos 0 (by omega) h0 h1 h2]
  dsimp only
  rw [if_pos (by omega), need_bind (by omega) rfl, if_neg (by omega), if_pos (by simp)]

/-- History (ii), M13: entering the loop of `match_token_offset` with `max_depth = 0` (what
    `predict_token` passes for a "good" first match when lazy matching, `zlib_compatible` and
    `max_chain < 4` are combined: `max_chain >> 2 = 0`) underflows `max_chain -= 1` at the first
    candidate that is in range and does not end the search (here: one that differs at `best_len`).
    With or without the break. -/
theorem max_chain_underflow_at_depth0 (bf : Bool) (p : Params) (plain : Array Nat)
    (startPos maxLen nice hop0 hop1 d bestLen : Nat) (rest : List (Nat × Bool)) (best : MatchResult)
    (h3 : 3 ≤ maxLen) (hsz : startPos + maxLen ≤ plain.size) (hs : startPos < 2147483648)
    (hd : d ≤ hop0) (hds : d ≤ startPos) (hb : bestLen < maxLen)
    (hne : byteAt plain (startPos - d + bestLen) ≠ byteAt plain (startPos + bestLen)) :
    matchLoopC bf p plain startPos maxLen nice hop0 hop1 ((d, true) :: rest) true bestLen 0 best =
      .error (.panic "M13 match_token_offset: max_chain -= 1 (u32)") := by
  unfold matchLoopC
  rw [need_bind rfl rfl, if_neg (by omega), if_neg (by simp), need_bind (inI32_of (by omega) (by omega)) rfl,
    need_bind hds rfl, chk_bind (prefixCompareChk_ok h3 (by omega) hsz hb) rfl,
    prefixCompare_zero_of_ne plain (startPos - d) startPos bestLen maxLen hne]
  dsimp only
  rw [if_neg (by omega)]
  rfl

/-- the depth `predict_token` passes to `match_token_1` is 0 exactly in the excluded combination -/
theorem lazy_depth_zero (p : Params) (len : Nat) (hz : p.zlibCompatible = true) (hg : len ≥ p.goodLength)
    (hc : p.maxChain < 4) :
    (if p.zlibCompatible ∧ len ≥ p.goodLength then p.maxChain >>> 2 else p.maxChain) = 0 := by
  rw [if_pos ⟨hz, hg⟩, Nat.shiftRight_eq_div_pow]
  exact Nat.div_eq_of_lt (by simpa using hc)

/-- `EstimatorRange` does not imply `LazyDepthOK`: lazy, zlib_compatible, max_chain = 1, good_length = 4,
    max_lazy = 258, so that a first match of 4 bytes or more sends `match_token_1` off with depth
    `1 >> 2 = 0` -/
def lazyDepthWitness : Params :=
  { strategy := 0, huffStrategy := 0, zlibCompatible := true, windowBits := 15, hashAlg := 1, hashShift := 5,
    hashMask := 32767, maxTokenCount := 16386, maxDist3 := 4096, veryFar := false, matchesToStart := false,
    isLazy := true, goodLength := 4, maxLazy := 258, niceLength := 258, maxChain := 1, minLen := 3,
    addPolicy := 0, addLimit := 0 }

theorem estimatorRange_not_lazyDepthOK : EstimatorRange lazyDepthWitness ∧ ¬ LazyDepthOK lazyDepthWitness := by
  refine ⟨by decide, fun h => ?_⟩
  have := h rfl rfl ⟨4, by decide⟩
  revert this
  decide

/-- reconstruction side, for the record: `hop_match(len, ..)` with a length below 3 (the length comes
    from the correction stream: `decode_difference(predicted_len, correction)`) trips the assertion
    of `prefix_compare` at the first candidate in range — a panic on malformed correction data, also
    in release builds. On the corrections `predict_block` writes for a valid stream `len ≥ 3`. -/
theorem hopMatch_short_len_panics (plain : Array Nat) (pos maxDist len hops d cur : Nat)
    (rest : List (Nat × Bool)) (hl : 1 ≤ len ∧ len < 3) (hd : d ≤ maxDist) (hm : maxDist ≤ pos)
    (hpos : pos ≤ plain.size) (hsz : plain.size < 2147483648) :
    hopMatchLoopChk plain pos maxDist len hops ((d, true) :: rest) cur = .error (.panic
      "P1 prefix_compare: assert!(max_len >= 3 && s1.len() >= max_len && s2.len() >= max_len && best_len < max_len)") := by
  unfold hopMatchLoopChk
  rw [need_bind rfl rfl, if_neg (by omega), chk_bind (curCharsChk_ok (by omega) (by omega) hsz) rfl,
    chk_bind (curCharsChk_ok (by omega) (by omega) hsz) rfl, need_bind (by omega) rfl,
    prefixCompareChk_P1 plain (pos - d) pos (len - 1) len (by omega)]
  rfl

/-- Whenever the checked `match_token_offset` answers, it answers what the validated
    transcription `Chains.matchToken` answers — the checker follows the same control flow -/
theorem matchTokenC_eq (p : Params) (plain : Array Nat) (c : Chain) (pos offset prevLen maxDepth : Nat)
    (r : MatchResult) (h : matchTokenC true p plain c pos offset prevLen maxDepth = .ok r) :
    r = matchToken p plain c pos offset prevLen maxDepth :=
  (matchTokenC_checked ..).eq r h

/-- `match_token_offset` where `predict_token` calls it: no panic, and the answer of the validated
    transcription -/
theorem matchTokenC_spec (p : Params) (plain : Array Nat) (c : Chain) (pos offset prevLen maxDepth : Nat)
    (hps : ParamsSafe p) (hoff : offset ≤ 1) (hsz : plain.size < 2147483648)
    (hpos : pos + offset ≤ plain.size) (hp1 : 1 ≤ pos) (hprev : prevLen < 4294967295)
    (hdepth : 1 ≤ maxDepth) (hit : IterSafe c.totalShift pos)
    (ht : TableInv c.t ((pos : Int) - c.totalShift))
    (ht3 : p.hashAlg = 3 → TableInv c.t3 ((pos : Int) - c.totalShift)) :
    matchTokenC true p plain c pos offset prevLen maxDepth = .ok (matchToken p plain c pos offset prevLen maxDepth) :=
  (matchTokenC_checked ..).ok ⟨hps, hoff, hsz, hpos, hp1, hprev, hdepth, hit, ht, ht3⟩

end Preflate.Proofs

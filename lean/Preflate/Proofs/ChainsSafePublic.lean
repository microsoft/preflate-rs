/-
The two remaining hypotheses of `encStreamChk_ok` (`LazyDepthOK p`, the 4 KiB side condition) hold
for every parameter vector the MODELLED estimator (`Est.estimate`, Model/EstimatorFull.lean) emits
on a valid stream. Hence, on everything the parser returns, under the parameters the estimator
chooses, the match finder and the hash chains reach none of their panic sites during analysis
(`public_encStreamChk_ok`).
-/
import Preflate.Proofs.ChainsSafe
import Preflate.Proofs.Estimator4k
import Preflate.Proofs.EstimateRange
import Preflate.Proofs.PlainLimit
namespace Preflate.Proofs
open Preflate Preflate.Chains Preflate.Est

/-- the level-table row `recommend` selects: it is lazy only for the SLOW table (add policy AddAll),
    and then either row 0 (good_length = max_lazy = 4: no length is both "good" and below max_lazy)
    or a row that needs a measured chain depth of at least 16 -/
theorem level_cfg_lazy (pol found : Nat) :
    let cfg := ((if pol = 0 then SLOW_SETTINGS else ZLIB_SETTINGS).find?
      (fun c => found < c.maxChain)).getD ⟨false, 0, 0, 258, 0⟩
    cfg.isLazy = true → (cfg.goodLength = 4 ∧ cfg.maxLazy = 4) ∨ 16 ≤ found := by
  intro cfg hl
  by_cases h16 : found < 16
  · left
    by_cases hp : pol = 0
    · have : cfg = ⟨true, 4, 4, 16, 16⟩ := by
        show ((if pol = 0 then SLOW_SETTINGS else ZLIB_SETTINGS).find?
          (fun c => found < c.maxChain)).getD ⟨false, 0, 0, 258, 0⟩ = _
        rw [if_pos hp]
        simp [SLOW_SETTINGS, h16]
      rw [this]; exact ⟨rfl, rfl⟩
    · exfalso
      have hz : ∀ c ∈ ZLIB_SETTINGS, c.isLazy = false := by decide
      have : cfg.isLazy = false := by
        show (((if pol = 0 then SLOW_SETTINGS else ZLIB_SETTINGS).find?
          (fun c => found < c.maxChain)).getD ⟨false, 0, 0, 258, 0⟩).isLazy = false
        rw [if_neg hp]
        cases hfind : ZLIB_SETTINGS.find? (fun c => found < c.maxChain) with
        | none => rfl
        | some c => exact hz c (List.mem_of_find?_eq_some hfind)
      rw [this] at hl; cases hl
  · right; omega

/-- what `recommend` emits: a lazy vector either has good_length = max_lazy = 4 or a chain depth of
    at least 17 (`max_chain = max_chain_found + 1`) -/
theorem recommend_lazy (wsize pol : Nat) (s : CLState) (cl : CompLevelInfo)
    (h : recommend wsize pol s = .ok cl) :
    cl.isLazy = true → (cl.goodLength = 4 ∧ cl.maxLazy = 4) ∨ 17 ≤ cl.maxChain := by
  unfold recommend at h
  split at h
  · cases h
  · rename_i cand hmin
    simp only at h
    split at h
    · cases h
    · split at h
      · cases h
      · cases h
        intro hl
        rcases level_cfg_lazy pol cand.maxChainFound hl with h1 | h1
        · left; exact h1
        · right; show 17 ≤ cand.maxChainFound + 1; omega

/-- The documented exclusion is never emitted: whatever the modelled estimator returns satisfies
    `LazyDepthOK` (lazy + zlib_compatible + a "good" length below max_lazy implies max_chain ≥ 4; in
    fact ≥ 17). No validity hypothesis is needed. -/
theorem estimate_lazyDepthOK' (plain : Array Nat) (blocks : List Block) (p : Params)
    (h : Est.estimate plain blocks = .ok p) : LazyDepthOK p := by
  obtain ⟨f, _, hc⟩ := estimate_cases h
  rcases hc with ⟨_, rfl⟩ | ⟨_, s, cl, _, hrec, rfl⟩
  · intro hl; cases hl
  · intro hl _ hex
    obtain ⟨len, _, _, hg, hm⟩ := hex
    rcases recommend_lazy _ _ s cl hrec hl with ⟨e1, e2⟩ | h17
    · simp only [e1, e2] at hg hm; omega
    · show 4 ≤ cl.maxChain; omega

theorem estimate_lazyDepthOK (plain : Array Nat) (blocks : List Block) (p : Params)
    (_hv : StreamValid plain blocks) (h : Est.estimate plain blocks = .ok p) : LazyDepthOK p :=
  estimate_lazyDepthOK' plain blocks p h

/-- The 4 KiB side condition: the estimator's add policy is `Est.addPolicy blocks` (or AddAll for
    the no-dictionary vector), and that answers the 4 KiB-boundary policy only when no reference
    starts in the last three bytes of a 4 KiB page -/
theorem estimate_noRefAt4k (plain : Array Nat) (blocks : List Block) (p : Params)
    (h : Est.estimate plain blocks = .ok p) :
    p.addPolicy = 3 → NoRefAt4k 0 (streamLens blocks) := by
  obtain ⟨f, hf, hc⟩ := estimate_cases h
  have hpol : p.addPolicy = f.addPolicy := by
    rcases hc with ⟨hnd, rfl⟩ | ⟨_, s, cl, _, _, rfl⟩
    · -- the no-dictionary front has add policy 0
      unfold Est.front at hf
      simp only [] at hf
      split at hf
      · cases hf; rfl
      · rw [bind_eq_ok] at hf
        obtain ⟨⟨pol, lim⟩, _, hf⟩ := hf
        cases hf
        cases hnd
    · rfl
  intro h3
  unfold Est.front at hf
  simp only [] at hf
  split at hf
  · cases hf
    rw [hpol] at h3
    cases h3
  · rw [bind_eq_ok] at hf
    obtain ⟨⟨pol, lim⟩, hap, hf⟩ := hf
    cases hf
    rw [hpol] at h3
    simp only at h3
    subst h3
    exact addPolicy_4k blocks lim hap

/-- the main theorem of `Proofs/ChainsSafe.lean` for the estimator's own parameter vector: on a valid
    stream shorter than 2^31 bytes no hypothesis on the parameters is left -/
theorem estimate_encStreamChk_ok (plain : Array Nat) (blocks : List Block) (p : Params)
    (hv : StreamValid plain blocks) (hsz : plain.size < 2147483648)
    (h : Est.estimate plain blocks = .ok p) : encStreamChk p plain blocks = .ok () :=
  encStreamChk_ok p plain blocks (estimate_in_range plain blocks p hv h)
    (estimate_lazyDepthOK' plain blocks p h) hsz hv (estimate_noRefAt4k plain blocks p h)

/-- the main theorem without the 4 KiB side condition, for the add policy the estimator itself
    chooses (`estimate_add_policy` answers the 4 KiB-boundary policy only when no reference starts in
    the last three bytes of a 4 KiB page: `addPolicy_4k`) -/
theorem encStreamChk_ok_estimated (p : Params) (plain : Array Nat) (blocks : List Block)
    (hr : EstimatorRange p) (hlz : LazyDepthOK p) (hsz : plain.size < 2147483648)
    (hv : StreamValid plain blocks) (pol lim : Nat)
    (he : Est.addPolicy blocks = .ok (pol, lim)) (hp : p.addPolicy = pol) :
    encStreamChk p plain blocks = .ok () := by
  refine encStreamChk_ok p plain blocks hr hlz hsz hv (fun h3 => ?_)
  rw [← hp, h3] at he
  exact addPolicy_4k blocks lim he

/-- On everything the parser returns, under the parameters the (modelled) estimator
    chooses, the match finder and the hash chains reach none of their panic sites
    (`Model/ChainsSafe.lean`) during analysis -/
theorem public_encStreamChk_ok (d : List UInt8) (pr : Parsed) (hp : parse d = .ok pr) (p : Params)
    (he : Est.estimate pr.plain pr.blocks = .ok p) : encStreamChk p pr.plain pr.blocks = .ok () := by
  have hv := (parse_valid_unbounded (bytesToBits d) pr hp).1
  have hsz := parse_plain_lt d pr hp
  exact estimate_encStreamChk_ok pr.plain pr.blocks p hv (by omega) he

end Preflate.Proofs

/- Full estimator (Model/EstimatorFull.lean): the array-table arrangement of the hash functions
   equals the validated functions of Model/Chains.lean; the complete vector extends `Est.front`;
   `check_dump` is a walk over the flattened token list; and the rules by which a pre/postcondition
   passes through the estimator's control structures (`Post`), shared by the range proof, the
   no-panic proof and the classification of outcomes. -/
import Preflate.Model.EstimatorFull
import Preflate.Proofs.Estimator
namespace Preflate.Proofs
open Preflate Preflate.Est

theorem hash3AtA_eq (plain : Array Nat) (i : Nat) : hash3AtA plain i = Chains.hash3At plain i := by
  simp [hash3AtA, Chains.hash3At, Nat.shiftLeft_eq]

theorem hashAtA_eq (p : Params) (plain : Array Nat) (i : Nat) : hashAtA p plain i = Chains.hashAt p plain i := by
  have hm : (if p.hashShift = 5 then 32 else if p.hashShift = 4 then 16 else 2 ^ p.hashShift)
      = 2 ^ p.hashShift := by
    split
    · next h => rw [h]
    · split
      · next h => rw [h]
      · rfl
  have hA : ∀ (l : List Nat) (i : Nat), l.toArray.getD i 0 = l.getD i 0 := fun l i => by simp
  unfold hashAtA Chains.hashAt
  simp only [hm, Nat.shiftLeft_eq, RANDOM_VECTOR_A, CRC32C_TABLE_A, hA, Nat.reducePow]
  rfl

theorem u16_lt (n : Nat) : Chains.u16 n < 65536 := by
  unfold Chains.u16; omega

theorem u16_le_self (n : Nat) : Chains.u16 n ≤ n := by
  unfold Chains.u16; exact Nat.mod_le _ _

theorem u16_succ (x : Nat) : Chains.u16 (Chains.u16 x + 1) = Chains.u16 (x + 1) := by
  unfold Chains.u16; omega

theorem estimate_cases {plain : Array Nat} {blocks : List Block} {p : Params}
    (h : Est.estimate plain blocks = .ok p) :
    ∃ f, Est.front blocks = .ok f ∧
      ((f.noDictionary = true ∧
          p = ⟨f.strategy, f.huffStrategy, true, 0, 0, 0, 0, 16386, 0, false, false, false, 0, 0, 0, 0, 0, 0, 0⟩) ∨
       (f.noDictionary = false ∧ ∃ s cl,
          checkDump plain f.addPolicy f.addLimit { cands := candidatesFor (extractInfo blocks).minLen } blocks
            = .ok s ∧
          recommend (1 <<< f.windowBits) f.addPolicy s = .ok cl ∧
          p = { strategy := f.strategy, huffStrategy := f.huffStrategy, zlibCompatible := cl.zlibCompatible,
                windowBits := f.windowBits, hashAlg := cl.hashAlg, hashShift := cl.hashShift,
                hashMask := cl.hashMask, maxTokenCount := f.maxTokenCount, maxDist3 := cl.maxDist3,
                veryFar := cl.veryFar, matchesToStart := cl.matchesToStart, isLazy := cl.isLazy,
                goodLength := cl.goodLength, maxLazy := cl.maxLazy, niceLength := cl.niceLength,
                maxChain := cl.maxChain, minLen := (extractInfo blocks).minLen,
                addPolicy := f.addPolicy, addLimit := f.addLimit })) := by
  unfold Est.estimate at h
  rw [bind_eq_ok] at h
  obtain ⟨f, hf, h⟩ := h
  refine ⟨f, hf, ?_⟩
  split at h
  · rename_i hnd
    left
    cases h
    exact ⟨hnd, rfl⟩
  · rename_i hnd
    right
    rw [bind_eq_ok] at h
    obtain ⟨cl, hcl, h⟩ := h
    cases h
    refine ⟨by simpa using hnd, ?_⟩
    unfold compLevel at hcl
    split at hcl
    · cases hcl
    rw [bind_eq_ok] at hcl
    obtain ⟨s, hs, hcl⟩ := hcl
    exact ⟨s, cl, hs, hcl, rfl⟩

/-- the complete estimator extends the validated front part: the fields `front` determines are
    taken from it unchanged (so the range theorems about `front` carry over) -/
theorem estimate_front {plain : Array Nat} {blocks : List Block} {p : Params}
    (h : estimate plain blocks = .ok p) :
    ∃ f, front blocks = .ok f ∧ p.strategy = f.strategy ∧ p.huffStrategy = f.huffStrategy ∧
      p.windowBits = f.windowBits ∧ p.maxTokenCount = f.maxTokenCount ∧
      p.addPolicy = f.addPolicy ∧ p.addLimit = f.addLimit := by
  obtain ⟨f, hf, ⟨hnd, rfl⟩ | ⟨_, s, cl, _, _, rfl⟩⟩ := estimate_cases h
  · obtain ⟨_, hw, ht, hp, hl⟩ := (front_in_range blocks f hf).2.2.1 hnd
    exact ⟨f, hf, rfl, rfl, hw.symm, ht.symm, hp.symm, hl.symm⟩
  · exact ⟨f, hf, rfl, rfl, rfl, rfl, rfl, rfl⟩

theorem dumpTokens_append (plain : Array Nat) (pol lim : Nat) : ∀ (a b : List Token) (s : CLState),
    dumpTokens plain pol lim s (a ++ b) =
      (dumpTokens plain pol lim s a >>= fun s => dumpTokens plain pol lim s b) := by
  intro a
  induction a with
  | nil => intro _ _; rfl
  | cons t ts ih =>
    intro b s
    cases t with
    | lit x =>
      simp only [List.cons_append, dumpTokens]
      cases updateCandidateHashes plain pol lim s 1 with
      | error e => rfl
      | ok s1 => exact ih b s1
    | ref len dist irr =>
      simp only [List.cons_append, dumpTokens]
      cases checkMatch plain s len dist with
      | error e => rfl
      | ok s0 =>
        simp only [ok_bind]
        cases updateCandidateHashes plain pol lim s0 len with
        | error e => rfl
        | ok s1 => exact ih b s1

theorem dumpStored_lits (plain : Array Nat) (pol lim : Nat) : ∀ (data : List Nat) (s : CLState),
    dumpStored plain pol lim s data.length = dumpTokens plain pol lim s (data.map Token.lit) := by
  intro data
  induction data with
  | nil => intro _; rfl
  | cons d ds ih =>
    intro s
    simp only [List.length_cons, List.map_cons, dumpStored, dumpTokens]
    cases updateCandidateHashes plain pol lim s 1 with
    | error e => rfl
    | ok s1 => exact ih s1

theorem checkDump_flat (plain : Array Nat) (pol lim : Nat) : ∀ (bs : List Block) (s : CLState),
    checkDump plain pol lim s bs = dumpTokens plain pol lim s (EstTotal.flat bs) := by
  intro bs
  induction bs with
  | nil => intro _; rfl
  | cons b bs ih =>
    intro s
    cases b with
    | stored pad data =>
      simp only [checkDump, EstTotal.flat, dumpTokens_append, dumpStored_lits]
      cases dumpTokens plain pol lim s (data.map Token.lit) with
      | error e => rfl
      | ok s1 => exact ih s1
    | fixed ts | dynamic _ ts =>
      simp only [checkDump, EstTotal.flat, dumpTokens_append]
      cases dumpTokens plain pol lim s ts with
      | error e => rfl
      | ok s1 => exact ih s1

/-- what `Candidate.updateHash` hands to the add policy: the update of the depth tables and, for a
    Libdeflate4 candidate (`with3`), of its 3-byte head table -/
def candUpd (plain : Array Nat) (with3 : Bool) (c : Candidate) (p l : Nat) : R Candidate :=
  match c with
  | ⟨hp, d, head3, l0, l1, mc⟩ => do
      let d ← d.internalUpdate hp plain p l
      let head3 ← (if with3 then internalUpdate3 plain head3 p l else .ok head3)
      .ok ⟨hp, d, head3, l0, l1, mc⟩

theorem updateHash_eq (plain : Array Nat) (pol lim : Nat) (c : Candidate) (pos length : Nat) :
    c.updateHash plain pol lim pos length =
      policyUpdateR pol lim (plain.size - pos) (candUpd plain (c.hp.hashAlg = 3)) c pos length := by
  unfold Candidate.updateHash
  split
  · next h => rw [h]; rfl
  · next h => rw [decide_eq_false h]; rfl

/-- `update_hash` under an add policy inserts the whole token, or nothing, or its first position
    and then, after the slice check, possibly its last -/
theorem policyUpdateR_eq {σ : Type} (pol lim avail : Nat) (upd : σ → Nat → Nat → R σ) (s : σ)
    (pos len : Nat) :
    policyUpdateR pol lim avail upd s pos len =
      if len = 1 ∨ pol = 0 ∨ (pol = 1 ∨ pol = 2) ∧ len ≤ lim then upd s pos len
      else if pol = 3 ∧ ¬ (pos &&& 4095) < 4093 then .ok s
      else upd s pos 1 >>= fun s1 =>
        if pol = 2 ∨ 4 ≤ pol ∧ Chains.is32kBoundary len pos = true then
          if len - 1 > avail then .error (.panic "update_hash: &input[length - 1..] out of range")
          else upd s1 (pos + len - 1) 1
        else .ok s1 := by
  have hlast : ∀ s1 : σ, (do
      if len - 1 > avail then throw (.panic "update_hash: &input[length - 1..] out of range")
      upd s1 (pos + len - 1) 1) =
      if len - 1 > avail then .error (.panic "update_hash: &input[length - 1..] out of range")
      else upd s1 (pos + len - 1) 1 := fun s1 => by split <;> rfl
  have bind_ok : ∀ x : R σ, (x >>= fun a => .ok a) = x := fun x => by cases x <;> rfl
  unfold policyUpdateR
  by_cases h1 : len = 1
  · simp only [h1, if_true, true_or]
  match pol with
  | 0 => simp only [h1, if_false, true_or, or_true, if_true]
  | 1 => by_cases hl : len ≤ lim <;> simp [h1, hl, bind_ok]
  | 2 => by_cases hl : len ≤ lim <;> simp [h1, hl, hlast]
  | 3 => by_cases h4 : (pos &&& 4095) < 4093 <;> simp [h1, h4, bind_ok]
  | n + 4 => cases hb : Chains.is32kBoundary len pos <;> simp [h1, hlast, bind_ok]

/-- a property that `upd` keeps is kept; the one failure `update_hash` adds is the slice panic -/
theorem policyUpdateR_post {σ : Type} {E : Fail → Prop} {P : σ → Prop} (pol lim avail : Nat)
    (upd : σ → Nat → Nat → R σ) (hE : E (.panic "update_hash: &input[length - 1..] out of range"))
    (hu : ∀ s p l, P s → Post E P (upd s p l)) (s : σ) (pos length : Nat) (hs : P s) :
    Post E P (policyUpdateR pol lim avail upd s pos length) := by
  rw [policyUpdateR_eq]
  exact Post.ite (fun _ => hu _ _ _ hs) fun _ => Post.ite (fun _ => .ok _ hs) fun _ =>
    (hu _ _ _ hs).seq fun s1 h1 => Post.ite
      (fun _ => Post.ite (fun _ => .error _ hE) fun _ => hu _ _ _ h1) fun _ => .ok _ h1

theorem updateCands_post {E : Fail → Prop} {P P' : Candidate → Prop} (f : Candidate → R Candidate)
    (hf : ∀ c, P c → Post E P' (f c)) :
    ∀ cs : List Candidate, (∀ c ∈ cs, P c) → Post E (fun cs' => ∀ c ∈ cs', P' c) (updateCands f cs)
  | [], _ => .ok _ fun _ h => nomatch h
  | c :: cs, h =>
    (hf c (h c List.mem_cons_self)).seq fun _ hc' =>
      (updateCands_post f hf cs fun x hx => h x (List.mem_cons_of_mem _ hx)).seq fun _ hcs' =>
        .ok _ (List.forall_mem_cons.mpr ⟨hc', hcs'⟩)

theorem retainCands_post {E : Fail → Prop} {P P' : Candidate → Prop} (f : Candidate → R (Option Candidate))
    (hf : ∀ c, P c → Post E (fun r => ∀ c', r = some c' → P' c') (f c)) :
    ∀ cs : List Candidate, (∀ c ∈ cs, P c) → Post E (fun cs' => ∀ c ∈ cs', P' c) (retainCands f cs)
  | [], _ => .ok _ fun _ h => nomatch h
  | c :: cs, h =>
    (hf c (h c List.mem_cons_self)).seq fun r hr =>
      (retainCands_post f hf cs fun x hx => h x (List.mem_cons_of_mem _ hx)).seq fun _ hrest =>
        .ok _ (by
          cases r with
          | none => exact hrest
          | some c' => exact List.forall_mem_cons.mpr ⟨hr c' rfl, hrest⟩)

/-- the token walk of `check_dump`, for an invariant `Inv` of the state that needs `T` of every token -/
theorem dumpTokens_post {E : Fail → Prop} (plain : Array Nat) (pol lim : Nat) (Inv : CLState → Prop)
    (T : Token → Prop)
    (hu : ∀ s l, Inv s → Post E Inv (updateCandidateHashes plain pol lim s l))
    (hc : ∀ s len dist irr, T (.ref len dist irr) → Inv s → Post E Inv (checkMatch plain s len dist)) :
    ∀ (ts : List Token) (s : CLState), (∀ t ∈ ts, T t) → Inv s → Post E Inv (dumpTokens plain pol lim s ts)
  | [], _, _, hs => .ok _ hs
  | .lit _ :: ts, s, ht, hs =>
    (hu s 1 hs).seq fun s1 h1 =>
      dumpTokens_post plain pol lim Inv T hu hc ts s1 (fun t h => ht t (List.mem_cons_of_mem _ h)) h1
  | .ref len dist irr :: ts, s, ht, hs =>
    (hc s len dist irr (ht _ List.mem_cons_self) hs).seq fun s0 h0 =>
      (hu s0 len h0).seq fun s1 h1 =>
        dumpTokens_post plain pol lim Inv T hu hc ts s1 (fun t h => ht t (List.mem_cons_of_mem _ h)) h1

end Preflate.Proofs

/-
C05 for the parameter estimator (`Est.estimate` = `estimate_preflate_parameters`, Model/EstimatorFull.lean):
no panic on a valid stream whose plaintext fits an i32 (`estimate_ok_or_err`: the result is `.ok p` or
`.error .err`). On EVERY stream the result is `.ok _`, `.error .err` or `.error (.panic s)` with
`s ∈ panicSites`, never `.error .fuel`: `estimate_outcomes`, Proofs/EstimateTotalOutcomes.lean.

## Panic sites reachable from `Est.estimate` (model site string — Rust site — why unreachable)

 1 "estimate_add_policy: subtract with overflow" — add_policy_estimator.rs `current_offset - r.dist()`
     (u32).  `dist ≤ pos`: `front_no_panic` (Proofs/Estimator.lean).
 2 "CompLevelEstimatorState::new: 1 << wbits does not fit u16" — complevel_estimator.rs, `1 << wbits`
     narrowed to u16.  `wbits ≤ 15` (`windowBits_range` via `front_in_range`): `estimate_ok_or_err`.
 3 "internal_update_hash: debug_assert!(length <= chars.len())" — depth_estimator.rs.  Every call has
     `pos + length ≤ plain.size` (`pos + len ≤ size` of the token; `pos + length - 1` with length 1 for
     the "last" insertion): `internalUpdate_spec`.
 4 "internal_update_hash: add with overflow" — `chain_depth[head] + 1` (i32, debug build).  Invariant
     `DBasic.cb`: every chain depth is ≤ the number of positions passed ≤ plain.size ≤ i32::MAX:
     `insertLoop_spec`.
 5 "internal_update_hash3: debug_assert!(length <= chars.len())" — as 3: `internalUpdate3_spec`.
 6 "update_hash: &input[length - 1..] out of range" — add_policy_estimator.rs DictionaryAddPolicy::update_hash,
     AddFirstAndLast and AddFirstWith32KBoundary (two sites, one string).  `length ≤ input.len()`:
     `policyUpdateR_spec`.
 7 "get_hash (3 byte secondary): index out of range" — HashTableDepthEstimatorLibdeflate::match_depth,
     3-byte hash of `cur_chars(0)`.  `pos + 3 ≤ pos + len ≤ size`: `getHash3_ok`, `estimatorMatchDepth_ok`.
 8 "match_depth (libdeflate): subtract with overflow" — `pos - head3[h3]` (u32).  Invariant `CInv.h3`:
     every head3 entry is an inserted position (or 0) ≤ pos: `estimatorMatchDepth_ok`.
 9 "match_depth: subtract with overflow" — `pos - dist` (u32); `dist ≤ pos`: `matchDepth_ok`.
10 "get_hash: index out of range" — `self.hash.get_hash(input.cur_chars(0))` in match_depth: 3 bytes
     (zlib / miniz / random-vector hashes) or 4 bytes (libdeflate4, zlib-ng, crc32c).  The 4-byte
     candidates are either selected only when min_len ≥ 4 (`lenBound_le`: then every reference has
     len ≥ 4) or are Libdeflate4, whose match_depth returns before the 4-byte hash when len = 3:
     `getHash_ok`, `matchDepth_ok`, `estimatorMatchDepth_ok`, `sinv_init`.
11 "get_node_depth: debug_assert_eq!(chain_depth_hash_verify[node], expected_hash)" (both calls) and
12 "match_depth: debug_assert!(cur_depth >= match_depth)" — the NON-LOCAL ones.  Invariant `DCons`:
     for every position `P` of the last 64K that the add policy inserted, verify[P as u16] = hash(P), and
     head[hash(P)] is (the u16 of) a later inserted `Q` with verify[Q as u16] = hash(P) and
     chain_depth[Q] ≥ chain_depth[P] (`insertAt_inv`, `insertLoop_spec`, `DCons.skip`).  That the referenced
     position `pos - dist` IS one the policy inserted is what `estimate_add_policy` establishes
     (`addPolicy_refsIns`, EstimateTotalPolicy.lean: its window marks mirror first / interior / last
     byte of every match (`WInv`), its statistics dominate the mark of every referenced position
     (`RefsGood`), the chosen policy therefore covers it (`refCond_polIns`)); that it hashes like `pos`
     is `matchAt` over the first 3 / 4 bytes (`hash_of_match`); that the tables skip an update near the
     end of the input (`length + num_hash_bytes - 1 >= chars.len()`) is harmless because a later
     reference of length ≥ num_hash_bytes proves there was room (`CInv.cons` is conditional on
     `cur + numHashBytes ≤ size`).
13 "advance: add with overflow" and 14 "advance: debug_assert!(pos <= data.len())" — PreflateInput::advance;
     `pos + len ≤ size ≤ i32::MAX`: `updateCandidateHashes_spec`.
15 "recommend: subtract with overflow" — `window_size - 262` in recommend; `wbits ≥ 9`:
     `recommend_err`.

On INVALID streams the debug assertions are live.
-/
import Preflate.Proofs.EstimateTotalCand
import Preflate.Proofs.EstimateTotalOutcomes
namespace Preflate.Proofs.EstTotal
open Preflate Preflate.Est

/-- the estimator state at the token start `cur`: every surviving candidate satisfies `CInv` there, for
    the positions `I` the add policy inserts and references of at least `LB` bytes -/
structure SInv (plain : Array Nat) (I : Nat → Prop) (LB : Nat) (s : CLState) (cur : Nat) : Prop where
  pos : s.pos = cur
  cands : ∀ c ∈ s.cands, CInv plain I LB c cur

theorem updateCandidateHashes_spec (plain : Array Nat) (pol lim : Nat) (M : Nat → Nat)
    (hsz : plain.size ≤ I32_MAX) (LB : Nat) (s : CLState) (p : Nat) (t : Token)
    (hS : SInv plain (Ins pol lim M) LB s p) (ht : TokAt pol M plain.size p t) :
    Post (fun _ => False) (SInv plain (Ins pol lim M) LB · (p + tokenLen t))
      (updateCandidateHashes plain pol lim s (tokenLen t)) := by
  obtain ⟨pos, cands, rc, ur, mts, l3⟩ := s
  obtain ⟨hpos, hc⟩ := hS
  simp only at hpos hc
  subst hpos
  simp only [updateCandidateHashes]
  refine (updateCands_post _ (fun c hc => updateHash_spec plain pol lim M LB hsz c pos t hc ht) cands
    hc).seq fun cs' hcs => ?_
  have := ht.fit
  rw [if_neg (show ¬ pos + tokenLen t > I32_MAX by omega), if_neg (show ¬ pos + tokenLen t > plain.size by omega)]
  exact .ok _ ⟨rfl, hcs⟩

theorem checkMatch_spec (plain : Array Nat) (I : Nat → Prop) (LB : Nat) (s : CLState) (p len dist : Nat)
    (hS : SInv plain I LB s p) (hI : I (p - dist)) (hv : VRef plain p len dist) (hlb : LB ≤ len) :
    Post (fun _ => False) (SInv plain I LB · p) (checkMatch plain s len dist) := by
  obtain ⟨pos, cands, rc, ur, mts, l3⟩ := s
  obtain ⟨hpos, hc⟩ := hS
  simp only at hpos hc
  subst hpos
  simp only [checkMatch]
  split
  · exact .ok _ ⟨rfl, hc⟩
  · exact (retainCands_post _ (fun c hc => cand_matchDepth_ok plain I LB c pos len dist hc hI hv hlb)
      cands hc).seq fun cs' hcs => .ok _ ⟨rfl, hcs⟩

theorem dumpTokens_spec (plain : Array Nat) (pol lim : Nat) (M : Nat → Nat)
    (hsz : plain.size ≤ I32_MAX) (LB : Nat) :
    ∀ (ts : List Token) (s : CLState) (p : Nat),
      SInv plain (Ins pol lim M) LB s p → VToks plain p ts → MarksAgree M p ts →
      RefsIns M pol lim p ts → (∀ len dist irr, Token.ref len dist irr ∈ ts → LB ≤ len) →
      Post (fun _ => False) (SInv plain (Ins pol lim M) LB · (toksEnd p ts)) (dumpTokens plain pol lim s ts)
  | [], _, _, hS, _, _, _, _ => .ok _ hS
  | .lit b :: ts, s, p, hS, hv, hm, hr, hlb =>
    (updateCandidateHashes_spec plain pol lim M hsz LB s p (.lit b) hS
      ⟨Nat.succ_le_of_lt hv.1, hm.1, nofun⟩).seq fun s1 i1 =>
      dumpTokens_spec plain pol lim M hsz LB ts s1 _ i1 hv.2 hm.2 hr
        fun len dist irr h => hlb len dist irr (List.mem_cons_of_mem _ h)
  | .ref len dist irr :: ts, s, p, hS, hv, hm, hr, hlb =>
    (checkMatch_spec plain _ LB s p len dist hS hr.1.1 hv.1
      (hlb len dist irr List.mem_cons_self)).seq fun s0 i0 =>
      (updateCandidateHashes_spec plain pol lim M hsz LB s0 p (.ref len dist irr) i0
        ⟨hv.1.fit, hm.1, fun _ _ _ h => by cases h; exact ⟨hv.1.len3, hv.1.len258, hr.1.2⟩⟩).seq fun s1 i1 =>
        dumpTokens_spec plain pol lim M hsz LB ts s1 _ i1 hv.2 hm.2 hr.2
          fun len dist irr h => hlb len dist irr (List.mem_cons_of_mem _ h)

/-- the lower bound on reference lengths the candidate list is chosen for -/
def lenBound (minLen : Nat) : Nat := if minLen = 3 then 3 else 4

theorem lenBound_le (plain : Array Nat) (blocks : List Block) (hv : VToks plain 0 (flat blocks)) :
    ∀ len dist irr, Token.ref len dist irr ∈ flat blocks → lenBound (extractInfo blocks).minLen ≤ len := by
  intro len dist irr hmem
  obtain ⟨h1, h2⟩ := extractInfo_minLen blocks
  have hle := h1 len dist irr hmem
  have hge := h2 3 (by decide) fun l d i hm => (hv.refOK _ hm).1
  unfold lenBound
  split <;> omega

theorem cinv_new (plain : Array Nat) (I : Nat → Prop) (LB alg shift mask : Nat)
    (h : alg = 3 ∨ Chains.numHashBytes (hashParams alg shift mask) ≤ LB) :
    CInv plain I LB (Candidate.new alg shift mask) 0 := by
  refine ⟨⟨by simp [Candidate.new, Depth.empty], by simp [Candidate.new, Depth.empty],
    by simp [Candidate.new, Depth.empty], ?_⟩, ?_, ?_, h⟩
  · intro x
    simp only [Candidate.new, Depth.empty, get!_replicate_zero]
    exact Nat.le_refl _
  · intro x
    simp only [Candidate.new]
    split
    · rw [get!_replicate_zero]; exact Nat.le_refl _
    · rw [get!_empty]; exact Nat.le_refl _
  · intro _ P _ hP _
    omega

theorem sinv_init (plain : Array Nat) (I : Nat → Prop) (minLen : Nat) :
    SInv plain I (lenBound minLen) { cands := candidatesFor minLen } 0 := by
  refine ⟨rfl, fun c hc => ?_⟩
  unfold candidatesFor at hc
  unfold lenBound
  split at hc
  · next h =>
    rw [if_pos h]
    simp only [List.mem_cons, List.not_mem_nil, or_false] at hc
    rcases hc with rfl | rfl | rfl | rfl | rfl <;> exact cinv_new _ _ _ _ _ _ (by decide)
  · next h =>
    rw [if_neg h]
    simp only [List.mem_cons, List.not_mem_nil, or_false] at hc
    rcases hc with rfl | rfl | rfl <;> exact cinv_new _ _ _ _ _ _ (by decide)

theorem checkDump_ok (plain : Array Nat) (blocks : List Block) (hv : ValidBlocks plain 0 blocks)
    (hsz : plain.size ≤ I32_MAX) (pol lim : Nat) (hp : addPolicy blocks = .ok (pol, lim)) :
    ∃ s, checkDump plain pol lim { cands := candidatesFor (extractInfo blocks).minLen } blocks = .ok s := by
  have hvt := (VToks_flat plain blocks 0 hv).1
  obtain ⟨s, e, _⟩ := (dumpTokens_spec plain pol lim (markAt 0 (flat blocks)) hsz
    (lenBound (extractInfo blocks).minLen) (flat blocks) { cands := candidatesFor (extractInfo blocks).minLen } 0
    (sinv_init plain _ _) hvt (markAt_agrees _) (addPolicy_refsIns plain blocks hv pol lim hp)
    (lenBound_le plain blocks hvt)).exists_ok
  exact ⟨s, by rw [checkDump_flat]; exact e⟩

theorem recommend_err (wsize pol : Nat) (s : CLState) (hw : 262 ≤ wsize) :
    Post (· = .err) (fun _ => True) (recommend wsize pol s) := by
  fun_cases recommend wsize pol s
  · exact .error _ rfl
  · exact .error _ rfl
  · omega
  · exact .ok _ trivial

/-- on a valid stream whose plaintext fits an `i32` the estimator returns a parameter vector or
    `Err(PreflateError)` ("no candidates found" / "max_chain_found too large") -/
theorem estimate_ok_or_err (plain : Array Nat) (blocks : List Block) (hv : StreamValid plain blocks)
    (hsz : plain.size ≤ 2 ^ 31 - 1) : Post (· = .err) (fun _ => True) (Est.estimate plain blocks) := by
  obtain ⟨f, hf⟩ := front_ok_of_valid plain blocks hv
  unfold Est.estimate
  simp only [hf, ok_bind]
  split
  · exact .ok _ trivial
  · next hnd =>
    have hnd' : f.noDictionary = false := by simpa using hnd
    obtain ⟨_, hw1, hw2, _⟩ := (front_in_range blocks f hf).2.2.2 hnd'
    obtain ⟨s, hs⟩ := checkDump_ok plain blocks hv.2.1 hsz f.addPolicy f.addLimit
      (front_policy blocks f hf hnd')
    refine Post.seq (Q := fun _ => True) ?_ fun _ _ => .ok _ trivial
    unfold compLevel
    simp only [bind, Except.bind]
    rw [if_neg (show ¬ f.windowBits ≥ 16 by omega)]
    simp only [hs]
    refine recommend_err _ _ s ?_
    rw [Nat.one_shiftLeft]
    calc 262 ≤ 2 ^ 9 := by decide
      _ ≤ 2 ^ f.windowBits := Nat.pow_le_pow_right (by decide) hw1

theorem estimate_no_panic' (plain : Array Nat) (blocks : List Block) (hv : StreamValid plain blocks)
    (hsz : plain.size ≤ 2 ^ 31 - 1) (m : String) :
    Est.estimate plain blocks ≠ .error (.panic m) := by
  rcases (estimate_ok_or_err plain blocks hv hsz).cases with ⟨p, h, _⟩ | ⟨e, h, rfl⟩ <;> rw [h] <;> exact nofun

/-- **C05 for the estimators (no-panic half).** On a stream the parser can return
    (`StreamValid`), with a plaintext whose length fits an `i32`, the complete parameter estimator
    `estimate_preflate_parameters` reaches none of its panic sites: neither the index / slice /
    overflow sites nor the three debug assertions of the depth estimators. -/
theorem estimate_no_panic (plain : Array Nat) (blocks : List Block) (hv : StreamValid plain blocks)
    (hsize : plain.size < 2 ^ 31 - 65536) (m : String) :
    Est.estimate plain blocks ≠ .error (.panic m) :=
  estimate_no_panic' plain blocks hv (by omega) m

def estimate_no_panic_statement : Prop :=
  ∀ (plain : Array Nat) (blocks : List Block), StreamValid plain blocks → plain.size < 2 ^ 31 - 65536 →
    ∀ m : String, Est.estimate plain blocks ≠ .error (.panic m)

theorem estimate_no_panic_statement_holds : estimate_no_panic_statement :=
  fun plain blocks hv hsize m => estimate_no_panic plain blocks hv hsize m

/-- on a valid stream the estimator returns a parameter vector or `Err(PreflateError)`
    ("no candidates found" / "max_chain_found too large") — nothing else -/
theorem estimate_valid_outcomes (plain : Array Nat) (blocks : List Block) (hv : StreamValid plain blocks)
    (hsize : plain.size < 2 ^ 31 - 65536) :
    (∃ p, Est.estimate plain blocks = .ok p) ∨ Est.estimate plain blocks = .error .err :=
  (estimate_ok_or_err plain blocks hv (by omega)).ok_or_error

/-- a reference of a valid stream leaves enough bytes for the hash of every surviving candidate
    that reaches `get_hash`: 3 bytes always, 4 bytes when `min_len ≠ 3` -/
theorem ref_room (plain : Array Nat) (blocks : List Block) (hv : StreamValid plain blocks)
    (len dist : Nat) (irr : Bool) (hmem : Token.ref len dist irr ∈ flat blocks) :
    3 ≤ len ∧ ((extractInfo blocks).minLen ≠ 3 → 4 ≤ len) := by
  have hvt := (VToks_flat plain blocks 0 hv.2.1).1
  refine ⟨(hvt.refOK _ hmem).1, fun h => ?_⟩
  have := lenBound_le plain blocks hvt len dist irr hmem
  unfold lenBound at this
  rw [if_neg h] at this
  exact this

end Preflate.Proofs.EstTotal

namespace Preflate.Proofs
export EstTotal (panicSites estimate_no_panic estimate_no_panic' estimate_outcomes estimate_valid_outcomes
  estimate_no_fuel estimate_no_panic_statement estimate_no_panic_statement_holds)
end Preflate.Proofs

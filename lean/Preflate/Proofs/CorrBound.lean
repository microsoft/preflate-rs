/-
SIZE OF THE CORRECTION DATA of `decompress_deflate_stream` (model: `decompressBytes Est.estimate
Chains.pred`): LINEAR in the length of the input, with explicit constants.

    bytes.size ≤ 224 * d.length + 202                                  (`corr_size_le`)

The bool coder spends at most 7 bits per decision, 239 at the ends (CorrBoundVP8); the codec emits
`opsCost ops` decisions (CorrBoundCodec); a tight predictor, as `Chains.pred` is (CorrBoundChains),
costs at most 32 decisions per input bit of the blocks, and 19 at the end (CorrBoundPredict); the blocks
occupied at most the 8 * d.length bits the parser read (CorrBoundParse). The parameter header costs at
most 178 decisions (`writeParams_cost`), so evs.length ≤ 178 + 32 * 8 * d.length + 19, and
8 * bytes.size ≤ 7 * (256 * d.length + 197) + 239.

WHY NOT BETTER. The bound charges every decision the worst case of the bool coder (7 bits) and every
Huffman symbol of the input the best case (1 bit). K = 224 = 7 * 32: 32 decisions per input bit is
reached by a run-length item of a dynamic header (type correction ≤ 37 and datum correction ≤ 511
against a one-bit code-length symbol); a reference token costs 58 against two bits.
-/
import Preflate.Proofs.CorrBoundVP8
import Preflate.Proofs.CorrBoundChains
import Preflate.Proofs.LibraryOracle
namespace Preflate.Proofs
open Preflate

theorem opsCost_values (l : List (Nat × Nat)) :
    opsCost (l.map fun bv => Op.value bv.1 bv.2) = (l.map Prod.fst).sum := by
  induction l with
  | nil => rfl
  | cons a l ih => simp [opsCost_cons, opCost, ih]

theorem writeParams_cost (p : Params) (hdr : List Op) (h : writeParams p = .ok hdr) :
    opsCost hdr ≤ 178 := by
  simp only [writeParams, bind_eq_ok] at h
  obtain ⟨wb, _, hash, hh, nice, _, chain, _, minLen, _, h⟩ := h
  cases h
  have hhash : opsCost hash ≤ 28 := by
    split at hh
    · simp only [bind_eq_ok] at hh
      obtain ⟨sh, _, hh⟩ := hh
      cases hh
      simp [opCost]
    · cases hh
      simp [opCost]
  have hpol : opsCost (if p.addPolicy = 1 ∨ p.addPolicy = 2 then
      [Op.value 3 p.addPolicy, Op.value 8 p.addLimit] else [Op.value 3 p.addPolicy]) ≤ 11 := by
    split <;> simp [opCost]
  simp only [opsCost_append, opsCost_cons, opsCost_nil, opCost] at hpol ⊢
  omega

/-- the number of operations, from their cost: every well-formed operation costs at least one decision -/
theorem encStream_ops_le {H : Type} (P : Pred H) (hb : PredTight P) (plain : Array Nat) (blocks : List Block)
    (pad : Nat) (hv : StreamValid plain blocks) (hpad : pad < 256)
    (ops : List Op) (he : encStream P plain blocks pad = .ok ops) (hwf : ∀ o ∈ ops, o.WF) :
    ops.length ≤ 32 * blocksBits blocks + 19 :=
  Nat.le_trans (opsCost_of_wf ops hwf).1 (encStream_cost P hb plain blocks pad hv hpad ops he)

theorem encodeBytes_ok {ops : List Op} {bytes : Array UInt8} (h : encodeBytes ops = .ok bytes) :
    ∃ evs, encodeOps 0 ops = .ok evs ∧ bytes = VP8.writeEvents evs := by
  simp only [encodeBytes, bind_eq_ok] at h
  obtain ⟨evs, h1, h2⟩ := h
  simp only [Except.ok.injEq] at h2
  exact ⟨evs, h1, h2.symm⟩

theorem analysis_decisions_le {H : Type} (est : Array Nat → List Block → R Params) (mk : Params → Pred H)
    (hb : ∀ q, PredTight (mk q)) (d : List UInt8)
    (r : StreamResult) (h : decompressStream est mk false d = .ok r)
    (evs : List Ev) (he : encodeOps 0 r.corr = .ok evs) :
    evs.length ≤ 256 * d.length + 197 := by
  obtain ⟨p, params, hdr, body, h1, h2, h3, h4, rfl⟩ := decompressStream_ok h
  obtain ⟨hv, hpad⟩ := parse_valid_unbounded (bytesToBits d) p h1
  have e1 := encodeOps_length_eq (hdr ++ body) 0 (by omega) evs he
  have e2 := writeParams_cost params hdr h3
  have e3 := encStream_cost (mk params) (hb params) p.plain p.blocks p.eofPadding hv hpad body h4
  have e4 := parse_bits d p h1
  simp only [opsCost_append] at e1
  omega

theorem corr_size_le_of_tight {H : Type} (est : Array Nat → List Block → R Params) (mk : Params → Pred H)
    (hb : ∀ q, PredTight (mk q)) (verify : Bool) (d : List UInt8)
    (plain : Array Nat) (bytes : Array UInt8) (n : Nat) (q : Params)
    (h : decompressBytes est mk verify d = .ok (plain, bytes, n, q)) :
    bytes.size ≤ 224 * d.length + 202 := by
  obtain ⟨r, h1, h2, _⟩ := decompressBytes_ok h
  obtain ⟨evs, h3, hbytes⟩ := encodeBytes_ok h2
  have e1 := analysis_decisions_le est mk hb d r h1 evs h3
  have e2 := writeEvents_size_le8 evs
  rw [hbytes]
  omega

/-- the library's stream analysis: `decompress_deflate_stream` with the modelled
    estimator and the executable predictor -/
theorem corr_size_le (verify : Bool) (d : List UInt8)
    (plain : Array Nat) (bytes : Array UInt8) (n : Nat) (q : Params)
    (h : decompressBytes Est.estimate Chains.pred verify d = .ok (plain, bytes, n, q)) :
    bytes.size ≤ 224 * d.length + 202 :=
  corr_size_le_of_tight Est.estimate Chains.pred chains_pred_tight verify d plain bytes n q h

/-- the same for a candidate handed over by the container level -/
theorem corr_size_le_bytes (verify : Bool) (d : Bytes)
    (plain : Array Nat) (bytes : Array UInt8) (n : Nat) (q : Params)
    (h : decompressBytes Est.estimate Chains.pred verify (toU8 d) = .ok (plain, bytes, n, q)) :
    bytes.size ≤ 224 * d.length + 202 :=
  length_toU8 d ▸ corr_size_le verify (toU8 d) plain bytes n q h

/-- what the scanner stores: the corrections of an ACCEPTED candidate -/
theorem lib_corr_size_le (d : Bytes) (r : Res)
    (h : libOracle.verified d = .ok r) : r.corr.length ≤ 224 * d.length + 202 := by
  obtain ⟨plain, bytes, q, h1, h2⟩ := libAnalyze_ok d r (verified_ok h).1
  have := corr_size_le_bytes false d plain bytes r.size q h1
  rw [h2]
  simpa [length_ofU8] using this

end Preflate.Proofs

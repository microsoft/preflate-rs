/- The candidates (for the no-panic proof of the parameter estimator). A candidate's tables
   stay consistent (`CInv`) under `update_hash`, and `match_depth` passes its checks on a reference
   of a valid stream. -/
import Preflate.Proofs.EstimateTotalPolicy
import Preflate.Proofs.EstimateTotalDepth
namespace Preflate.Proofs.EstTotal
open Preflate Preflate.Est

theorem internalUpdate_spec (hp : Params) (plain : Array Nat) (I : Nat → Prop) (d : Depth) (p l : Nat)
    (hsz : plain.size ≤ I32_MAX) (hl : p + l ≤ plain.size) (hb : DBasic d p) :
    ∃ d', d.internalUpdate hp plain p l = .ok d' ∧ DBasic d' (p + l) ∧
      (p + l + Chains.numHashBytes hp ≤ plain.size →
        DCons (hashAtA hp plain) I d p → DCons (hashAtA hp plain) I d' (p + l)) := by
  unfold Depth.internalUpdate
  simp only []
  rw [if_neg (show ¬ l > plain.size - p by omega)]
  have hn := numHashBytes_cases hp
  by_cases hroom : l + Chains.numHashBytes hp - 1 ≥ plain.size - p
  · rw [if_pos hroom]
    exact ⟨d, rfl, hb.mono (by omega), fun h => by omega⟩
  · rw [if_neg hroom]
    obtain ⟨head, cd, vf⟩ := d
    simp only []
    obtain ⟨d', e1, e2, e3⟩ := insertLoop_spec (hashAtA hp plain) I (hashAtA_lt hp plain) p l (by omega)
      0 _ head cd vf rfl (Nat.zero_le _) hb
    exact ⟨d', e1, e2, fun _ => e3⟩

theorem insertLoop3_bound (plain : Array Nat) (pos length B : Nat) (hB : pos + length ≤ B) (i : Nat)
    (head3 : Array Nat) (h : ∀ x : Nat, head3[x]! ≤ B) :
    ∀ x : Nat, (insertLoop3 plain pos length i head3)[x]! ≤ B := by
  fun_induction insertLoop3 plain pos length i head3 with
  | case1 i head3 hlt ih =>
    refine ih fun y => ?_
    rw [get_set!]
    split
    · omega
    · exact h y
  | case2 => exact h

theorem internalUpdate3_spec (plain : Array Nat) (head3 : Array Nat) (p l : Nat) (hl : p + l ≤ plain.size)
    (h : ∀ x : Nat, head3[x]! ≤ p) :
    ∃ h', internalUpdate3 plain head3 p l = .ok h' ∧ ∀ x : Nat, h'[x]! ≤ p + l := by
  unfold internalUpdate3
  simp only []
  rw [if_neg (show ¬ l > plain.size - p by omega)]
  split
  · exact ⟨head3, rfl, fun x => Nat.le_trans (h x) (by omega)⟩
  · exact ⟨_, rfl, insertLoop3_bound plain p l (p + l) (Nat.le_refl _) 0 head3
      (fun x => Nat.le_trans (h x) (by omega))⟩

/-- the tables of a candidate are consistent for the inserted positions `I` below `cur`; its hash
    reads no more bytes than the shortest reference (`LB`) has — except Libdeflate4, which looks at
    its 3-byte table first -/
structure CInv (plain : Array Nat) (I : Nat → Prop) (LB : Nat) (c : Candidate) (cur : Nat) : Prop where
  basic : DBasic c.d cur
  h3 : ∀ x : Nat, c.head3[x]! ≤ cur
  cons : cur + Chains.numHashBytes c.hp ≤ plain.size → DCons (hashAtA c.hp plain) I c.d cur
  alg : c.hp.hashAlg = 3 ∨ Chains.numHashBytes c.hp ≤ LB

theorem candUpd_spec (plain : Array Nat) (I : Nat → Prop) (LB : Nat) (hsz : plain.size ≤ I32_MAX)
    (with3 : Bool) (c : Candidate) (p l : Nat) (hInv : CInv plain I LB c p) (hl : p + l ≤ plain.size) :
    ∃ c', candUpd plain with3 c p l = .ok c' ∧ CInv plain I LB c' (p + l) := by
  obtain ⟨hp, d, head3, l0, l1, mc⟩ := c
  obtain ⟨hb, h3, hc, ha⟩ := hInv
  simp only at hb h3 hc ha
  obtain ⟨d', e1, e2, e3⟩ := internalUpdate_spec hp plain I d p l hsz hl hb
  obtain ⟨h', f1, f2⟩ : ∃ h', (if with3 then internalUpdate3 plain head3 p l else .ok head3) = .ok h' ∧
      ∀ x : Nat, h'[x]! ≤ p + l := by
    cases with3
    · exact ⟨head3, rfl, fun x => Nat.le_trans (h3 x) (by omega)⟩
    · exact internalUpdate3_spec plain head3 p l hl h3
  refine ⟨⟨hp, d', h', l0, l1, mc⟩, ?_, e2, f2, fun hr => ?_, ha⟩
  · simp only [candUpd, e1, f1, ok_bind]
  · simp only at hr ⊢
    exact e3 (by omega) (hc (by omega))

theorem cinv_advance (plain : Array Nat) (I : Nat → Prop) (LB : Nat) (c : Candidate) (p p' : Nat)
    (hInv : CInv plain I LB c p) (hpp : p ≤ p') (hno : ∀ q, p ≤ q → q < p' → ¬ I q) :
    CInv plain I LB c p' :=
  ⟨hInv.basic.mono hpp, fun x => Nat.le_trans (hInv.h3 x) hpp,
    fun hr => (hInv.cons (by omega)).skip hpp hno, hInv.alg⟩

theorem updateHash_spec (plain : Array Nat) (pol lim : Nat) (M : Nat → Nat) (LB : Nat)
    (hsz : plain.size ≤ I32_MAX) (c : Candidate) (p : Nat) (t : Token)
    (hInv : CInv plain (Ins pol lim M) LB c p) (ht : TokAt pol M plain.size p t) :
    Post (fun _ => False) (CInv plain (Ins pol lim M) LB · (p + tokenLen t))
      (c.updateHash plain pol lim p (tokenLen t)) := by
  rw [updateHash_eq]
  obtain ⟨c', e, h⟩ := policyUpdateR_spec (CInv plain (Ins pol lim M) LB) pol lim M plain.size _
    (fun s p l h hl => candUpd_spec plain _ LB hsz _ s p l h hl) (cinv_advance plain _ LB) c p t hInv ht
  exact .of_eq_ok e h

theorem matchAt_bytes (plain : Array Nat) (pos len dist k : Nat) (h : matchAt plain pos len dist = true)
    (hk : k < len) : Chains.byteAt plain (pos - dist + k) = Chains.byteAt plain (pos + k) := by
  unfold matchAt at h
  rw [List.all_eq_true] at h
  have := h k (List.mem_range.mpr hk)
  simpa [Chains.byteAt] using this

theorem hash_of_match (hp : Params) (plain : Array Nat) (pos len dist : Nat)
    (h : matchAt plain pos len dist = true) (hl : Chains.numHashBytes hp ≤ len) :
    hashAtA hp plain (pos - dist) = hashAtA hp plain pos :=
  hashAtA_congr hp plain _ _ (fun k hk => matchAt_bytes plain pos len dist k h (by omega))

theorem estimatorMatchDepth_ok (plain : Array Nat) (I : Nat → Prop) (LB : Nat) (c : Candidate)
    (pos len dist : Nat) (hInv : CInv plain I LB c pos) (hI : I (pos - dist)) (hv : VRef plain pos len dist)
    (hlb : LB ≤ len) :
    Post (fun _ => False) (fun _ => True) (c.estimatorMatchDepth plain pos len dist) := by
  obtain ⟨hl3, _, hd1, hd2, hd3, hfit, hm⟩ := hv
  unfold Candidate.estimatorMatchDepth
  refine Post.ite (fun h3 => ?_) fun h3 => ?_
  · rw [getHash3_ok plain pos (by omega), ok_bind]
    have := hInv.h3 (hash3AtA plain pos)
    refine Post.ite (fun h => absurd h (by omega)) fun _ => Post.ite (fun _ => .ok _ trivial) fun _ =>
      Post.ite (fun _ => .ok _ trivial) fun hl => ?_
    -- a Libdeflate4 candidate reaches its 4-byte hash only for `len ≠ 3`
    have hn := numHashBytes_alg3 c.hp h3
    exact (matchDepth_ok c.hp plain I c.d pos dist (hInv.cons (by omega)) hI hd1 hd2 hd3 (by omega)
      (hash_of_match c.hp plain pos len dist hm (by omega))).seq fun _ _ => .ok _ trivial
  · have hn : Chains.numHashBytes c.hp ≤ len := Nat.le_trans (hInv.alg.resolve_left h3) hlb
    exact matchDepth_ok c.hp plain I c.d pos dist (hInv.cons (by omega)) hI hd1 hd2 hd3
      (by omega) (hash_of_match c.hp plain pos len dist hm hn)

theorem cand_matchDepth_ok (plain : Array Nat) (I : Nat → Prop) (LB : Nat) (c : Candidate)
    (pos len dist : Nat) (hInv : CInv plain I LB c pos) (hI : I (pos - dist)) (hv : VRef plain pos len dist)
    (hlb : LB ≤ len) :
    Post (fun _ => False) (fun r => ∀ c', r = some c' → CInv plain I LB c' pos)
      (c.matchDepth plain pos len dist) := by
  unfold Candidate.matchDepth
  refine (estimatorMatchDepth_ok plain I LB c pos len dist hInv hI hv hlb).seq fun m _ => ?_
  -- the updated counters are no part of `CInv`
  have keep : ∀ l0 l1 mc c', some (⟨c.hp, c.d, c.head3, l0, l1, mc⟩ : Candidate) = some c' →
      CInv plain I LB c' pos :=
    fun _ _ _ c' hc' => by cases hc'; exact ⟨hInv.basic, hInv.h3, hInv.cons, hInv.alg⟩
  exact Post.ite (fun _ => Post.ite (fun _ => .ok _ (keep _ _ _)) fun _ => .ok _ (keep _ _ _)) fun _ =>
    .ok _ fun c' hc' => nomatch hc'

end Preflate.Proofs.EstTotal

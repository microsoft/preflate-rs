/-
C03 (RFC reading): where the two readings of the header coincide, `SpecRFC` is `Spec`.

* a block that is not dynamic is read by the same code (`rfc_readBlock_eq_of_mode`, in `SpecRFCParse`);
* a dynamic block the library accepts, whose items read the same under both readings, is accepted by
  `SpecRFC` with the same result (`rfc_readBlock_of_readBlock`);
* a dynamic block `SpecRFC` accepts, whose items read the same and whose two codes are complete, is
  accepted by the library with the same result (`readBlock_of_rfc_readBlock`).
-/
import Preflate.Proofs.SpecRFCParse
import Preflate.Proofs.ParseWriteConv
namespace Preflate.Proofs.RFC
open Preflate SpecRFC Preflate.Proofs

/-- the items of a dynamic block read the same under both readings: no repeat item follows a zero run
    with a different explicit length still pending, and no repeat item leads -/
def PlainItems : Block → Prop
  | .dynamic h _ => expandRFC h.items = some (expandItems h.items 0)
  | _ => True

def PlainComplete : Block → Prop
  | .dynamic h _ => expandRFC h.items = some (expandItems h.items 0) ∧
      validLengths ((expandItems h.items 0).take h.numLiterals) = true ∧
      validLengths ((expandItems h.items 0).drop h.numLiterals) = true
  | _ => True

theorem tableFor_of_valid {isDist : Bool} {l : List Nat} (hv : validLengths l = true)
    (h256 : isDist = false → l.getD 256 0 ≠ 0) : tableFor isDist l = some (codeTable l) := by
  unfold tableFor
  have hall : l.all (· ≤ 15) = true := by
    simp only [List.all_eq_true, decide_eq_true_eq]
    exact all_le_of_valid hv
  rw [if_neg (by simp only [hall, not_true_eq_false, not_false_eq_true]),
    if_neg (fun h => h256 h.1 h.2), if_pos (kraft_of_valid hv)]

theorem rfc_readBlock_of_readBlock (plain : Array Nat) (bs : Bits) (last : Bool) (b : Block)
    (pl : Array Nat) (rest : Bits) (h : readBlock plain bs = .ok (last, b, pl, rest))
    (hb : PlainItems b) : SpecRFC.readBlock plain bs = .ok (last, b, pl, rest) := by
  rcases rfc_readBlock_cases plain bs with e | ⟨l, bs1, bs2, h1, h2⟩
  · rw [e, h]
  obtain ⟨hd, bs3, ts, h3, hlen, hvl, hvd, h7, rfl, rfl⟩ := (readBlock_dynamic h1 h2).mp h
  -- the block was decoded, so it ended with symbol 256, which therefore has a code
  exact (rfc_readBlock_dynamic h1 h2).mpr ⟨hd, bs3, _, _, _, ts, h3, hb, hlen,
    tableFor_of_valid hvl fun _ => (decodeTokens_coded _ _ h7).2.1,
    tableFor_of_valid (isDist := true) hvd (nomatch ·), h7, rfl, rfl⟩

theorem readBlock_of_rfc_readBlock (plain : Array Nat) (bs : Bits) (last : Bool) (b : Block)
    (pl : Array Nat) (rest : Bits) (h : SpecRFC.readBlock plain bs = .ok (last, b, pl, rest))
    (hb : PlainComplete b) : readBlock plain bs = .ok (last, b, pl, rest) := by
  rcases rfc_readBlock_cases plain bs with e | ⟨l, bs1, bs2, h1, h2⟩
  · rw [← e, h]
  obtain ⟨hd, bs3, R, lt, dt, ts, h3, hR, hlen, h5, h6, h7, rfl, rfl⟩ :=
    (rfc_readBlock_dynamic h1 h2).mp h
  obtain ⟨hp, hvl, hvd⟩ := hb
  cases hp.symm.trans hR
  rw [tableFor_of_valid hvl (tableFor_some h5).1] at h5
  rw [tableFor_of_valid (isDist := true) hvd (nomatch ·)] at h6
  cases h5
  cases h6
  exact (readBlock_dynamic h1 h2).mpr ⟨hd, bs3, ts, h3, hlen, hvl, hvd, h7, rfl, rfl⟩

theorem rfc_readBlocks_of_readBlocks (fuel : Nat) (plain : Array Nat) (bs : Bits) (blocks : List Block)
    (pl : Array Nat) (rest : Bits) (h : readBlocks fuel plain bs = .ok (blocks, pl, rest))
    (hb : ∀ b ∈ blocks, PlainItems b) : SpecRFC.readBlocks fuel plain bs = .ok (blocks, pl, rest) := by
  rw [readBlocks_eq_loop] at h
  rw [rfc_readBlocks_eq_loop]
  exact blocksLoop_mono rfc_readBlock_of_readBlock _ _ _ _ _ _ h hb

theorem readBlocks_of_rfc_readBlocks (fuel : Nat) (plain : Array Nat) (bs : Bits) (blocks : List Block)
    (pl : Array Nat) (rest : Bits) (h : SpecRFC.readBlocks fuel plain bs = .ok (blocks, pl, rest))
    (hb : ∀ b ∈ blocks, PlainComplete b) : readBlocks fuel plain bs = .ok (blocks, pl, rest) := by
  rw [rfc_readBlocks_eq_loop] at h
  rw [readBlocks_eq_loop]
  exact blocksLoop_mono readBlock_of_rfc_readBlock _ _ _ _ _ _ h hb

theorem rfc_parseBits_of_ok (bs : Bits) (p : Parsed) (h : parseBits bs = .ok p)
    (hb : ∀ b ∈ p.blocks, PlainItems b) : SpecRFC.parseBits bs = .ok p := by
  obtain ⟨bs1, h1, h2⟩ := parseBits_eq_ok.mp h
  unfold SpecRFC.parseBits
  simp only [rfc_readBlocks_of_readBlocks _ _ _ _ _ _ h1 hb, ok_bind, h2]

theorem parseBits_of_rfc_ok (bs : Bits) (p : Parsed) (h : SpecRFC.parseBits bs = .ok p)
    (hb : ∀ b ∈ p.blocks, PlainComplete b) : parseBits bs = .ok p := by
  unfold SpecRFC.parseBits at h
  obtain ⟨⟨blocks, plain, bs1⟩, h1, h⟩ := (bind_eq_ok ..).mp h
  obtain ⟨⟨pad, bs2⟩, h2, h⟩ := (bind_eq_ok ..).mp h
  cases h
  exact parseBits_eq_ok.mpr ⟨bs1, readBlocks_of_rfc_readBlocks _ _ _ _ _ _ h1 hb, h2⟩

end Preflate.Proofs.RFC

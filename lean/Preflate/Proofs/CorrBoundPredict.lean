/-
SIZE OF THE CORRECTION DATA: blocks → operations (Model/Predict.lean), measured in decisions
(`opsCost`, Proofs/CorrBoundCodec.lean) against input bits (`blocksBits`, Proofs/CorrBoundParse.lean).

For a TIGHT predictor (`PredTight`: predicted match lengths ≤ 258, code lengths < 256 — both hold for
the executable predictor `Chains.pred`, Proofs/CorrBoundChains.lean) and a valid stream:

    token            : literal ≤ 2 decisions (≥ 1 input bit); reference ≤ 58 (≥ 2 input bits):
                       flag 2, length difference ≤ 517 (21), hop count ≤ 65535 (33), irregular-258 flag 2
    run-length item  : ≤ 32 (type difference ≤ 37: 13; datum difference ≤ 511: 19), ≥ 1 input bit
    code-length code : ≤ 19 (difference ≤ 511), 3 input bits
    block            : EOF flag 1, type ≤ 7, token count ≤ 65, counts ≤ 19, against ≥ 4 input bits

so every block costs at most 32 decisions per input bit, and the end of the stream 19 more.
-/
import Preflate.Proofs.OpsWF
import Preflate.Proofs.CorrBoundCodec
import Preflate.Proofs.CorrBoundParse
namespace Preflate.Proofs
open Preflate Gen

variable {H : Type}

/-- a `pending_reference` of at most MAX_MATCH -/
def PendTight (p : Option (Nat × Nat)) : Prop := ∀ l d, p = some (l, d) → l ≤ 258

def PTokTight : PTok → Prop
  | .lit => True
  | .ref l _ => l ≤ 258

structure PredTight (P : Pred H) : Prop where
  predict : ∀ (plain : Array Nat) (s : PState H), PendTight s.pending →
    PTokTight (P.predictTok plain s).1 ∧ PendTight (P.predictTok plain s).2
  repredict : ∀ (plain : Array Nat) (s : PState H) (l d : Nat), PendTight s.pending →
    P.repredictTok plain s = .ok (l, d) → l ≤ 258
  bitlen : ∀ (freq : List Nat) (maxBits : Nat), ∀ x ∈ P.calcBitLengths freq maxBits, x < 256

theorem pendTight_none : PendTight (none : Option (Nat × Nat)) := fun _ _ h => by cases h

theorem PredL.ofTight {P : Pred H} (hb : PredTight P) : PredL (· ≤ 258) P :=
  ⟨fun plain s hp => ⟨fun l d e => by
      have := (hb.predict plain s hp).1
      rw [e] at this
      exact this, (hb.predict plain s hp).2⟩, hb.repredict⟩

theorem encDiff_le (p a B : Nat) (hp : p ≤ B) (ha : a ≤ B) : encDiff p a ≤ 2 * B + 1 := by
  unfold encDiff
  split <;> omega

theorem opCost_corr_le_of_le (ctx v m k : Nat) (hk : 1 ≤ k) (hv : v ≤ m) (hm : m < 2 ^ k) :
    opCost (.corr ctx v) ≤ 1 + 2 * k :=
  opCost_corr_le ctx v k hk (Nat.lt_of_le_of_lt hv hm)

theorem TokOps.cost {t : Token} {ops : List Op} (h : TokOps (· ≤ 258) t ops) (ht : TokSmall t) :
    opsCost ops ≤ 29 * tokBits t := by
  cases h with
  | lit b c f hc =>
    have := opCost_mis_le c f
    simp only [opsCost_cons, opsCost_nil, tokBits]
    omega
  | ref len dist irr c f plen cd h hc hl hcd hh =>
    have h1 := opCost_mis_le c f
    have h2 := opCost_corr_le_of_le C_LEN _ 517 10 (by omega) (encDiff_le plen len 258 hl ht) (by decide)
    have h3 := opCost_corr_le_of_le cd h 65535 16 (by omega) hh (by decide)
    have h4 : opsCost (if len = 258 then [Op.mis M_IRREGULAR258 irr] else []) ≤ 2 := by
      split
      · simpa using opCost_mis_le M_IRREGULAR258 irr
      · simp
    simp only [opsCost_append, opsCost_cons, opsCost_nil, tokBits]
    omega

theorem ItemOps.cost {it : RleItem} {ops : List Op} (h : ItemOps (· < 256) it ops) (hok : Tree.ItemOk it) :
    opsCost ops ≤ 32 := by
  obtain ⟨pt, pd, cd, hpt, hpd, hcd, rfl⟩ := h
  have hkind : it.kind ≤ 18 ∧ it.data ≤ 138 := by
    unfold Tree.ItemOk at hok
    omega
  have := opCost_corr_le_of_le C_LD_TYPE _ 37 6 (by omega) (encDiff_le pt it.kind 18 hpt hkind.1) (by decide)
  have := opCost_corr_le_of_le cd _ 511 9 (by omega) (encDiff_le pd it.data 255 (by omega) (by omega)) (by decide)
  simp only [opsCost_cons, opsCost_nil]
  omega

theorem encTcLengths_cost (tc cl : List Nat) (htc : ∀ x ∈ tc, x < 256) (hcl : ∀ x ∈ cl, x < 8) :
    ∀ (n i : Nat), opsCost (encTcLengths tc cl n i) ≤ 19 * n := by
  intro n
  induction n with
  | zero => intro i; simp [encTcLengths]
  | succ n ih =>
    intro i
    rw [encTcLengths]
    have h1 := getD_lt (B := 256) (by omega) tc htc (TREE_CODE_ORDER_TABLE.getD i 0)
    have h2 := getD_lt (B := 8) (by omega) cl hcl (TREE_CODE_ORDER_TABLE.getD i 0)
    have := opCost_corr_le_of_le C_TREECODE_BITLEN _ 511 9 (by omega)
      (encDiff_le (tc.getD (TREE_CODE_ORDER_TABLE.getD i 0) 0) (cl.getD (TREE_CODE_ORDER_TABLE.getD i 0) 0) 255
        (by omega) (by omega)) (by decide)
    have := ih (i + 1)
    simp only [opsCost_cons]
    omega

theorem CountOps.cost {ctx bits v : Nat} {ops : List Op} (h : CountOps ctx bits v ops) (hbits : 1 ≤ bits) :
    opsCost ops ≤ 1 + bits := by
  rcases h with rfl | rfl
  · have : opCost (Op.mis ctx false) = 2 := rfl
    simp only [opsCost_cons, opsCost_nil, this]
    omega
  · simp [opCost]

theorem TreeOps.cost {h : Header} {ops : List Op} (ho : TreeOps (· < 256) h ops) (hv : HeaderValid h) :
    opsCost ops ≤ 19 + 32 * h.items.length + 19 * h.numCodeLengths := by
  obtain ⟨a, b, c, d, tc, rfl, ha, hb, hc, hd, htc⟩ := ho
  have := ha.cost (by decide)
  have := hb.cost (by decide)
  have := hc.measure_le opsCost_nil opsCost_append 0 32 (fun _ => 0) fun it hit _ hi =>
    Nat.le_trans (hi.cost (hv.items_kind it hit)) (Nat.le_add_left ..)
  have := hd.cost (by decide)
  have := encTcLengths_cost tc h.codeLengths htc hv.cl_small h.numCodeLengths 0
  simp only [opsCost_append]
  omega

theorem TokBlockOps.cost {btn : Nat} {ts : List Token} {T : List Op → Prop} {ops : List Op} {K : Nat}
    (h : TokBlockOps (· ≤ 258) btn ts T ops) (hT : ∀ tree, T tree → opsCost tree ≤ K) (hbtn : btn ≤ 2)
    (hts : ∀ t ∈ ts, TokSmall t) (hn : ts.length < 2 ^ 32 - 1) :
    opsCost ops ≤ 72 + 29 * toksBits ts + K := by
  obtain ⟨tc, toks, tree, rfl, htc, htoks, htree⟩ := h
  have := opCost_corr_le_of_le C_BLOCK_TYPE _ 5 3 (by omega) (encDiff_le 0 btn 2 (by omega) hbtn) (by decide)
  have := opCost_corr_le C_TOKEN_COUNT tc 32 (by omega) (by omega)
  have : opsCost toks ≤ 29 * toksBits ts + 0 * ts.length :=
    htoks.measure_le opsCost_nil opsCost_append 29 0 tokBits fun t ht _ h => h.cost (hts t ht)
  have := hT _ htree
  simp only [opsCost_cons, opsCost_append]
  omega

/-- one block: at most 32 decisions per input bit, with one to spare for the EOF flag -/
theorem BlockOps.cost {b : Block} {ops : List Op} (h : BlockOps (· ≤ 258) (· < 256) b ops)
    (hv : BlockSmall b) : opsCost ops + 1 ≤ 32 * blockBits b := by
  cases b with
  | stored pad data =>
    subst h
    have := opCost_corr_le_of_le C_BLOCK_TYPE (encDiff 0 1) 3 2 (by omega) (by decide) (by decide)
    have := opCost_corr_le C_NONZERO_PADDING pad 8 (by omega) hv
    simp only [opsCost_cons, opsCost_nil, blockBits, opCost] at *
    omega
  | fixed ts =>
    have := TokBlockOps.cost h (K := 0) (fun _ e => by rw [e]; simp) (by decide) hv.1 hv.2
    simp only [blockBits]
    omega
  | dynamic hd ts =>
    have := TokBlockOps.cost h (fun _ ht => ht.cost hv.2.2) (by decide) hv.1 hv.2.1
    simp only [blockBits]
    omega

theorem StreamOps.cost {blocks : List Block} {pad : Nat} {ops : List Op}
    (h : StreamOps (· ≤ 258) (· < 256) blocks pad ops) (hv : ∀ b ∈ blocks, BlockSmall b) (hpad : pad < 256) :
    opsCost ops ≤ 32 * blocksBits blocks + 19 := by
  obtain ⟨bops, hb, rfl⟩ := h
  have : opsCost bops ≤ 32 * blocksBits blocks + 0 * blocks.length := by
    refine hb.measure_le opsCost_nil opsCost_append 32 0 blockBits ?_
    rintro b hb _ ⟨f, a, ha, rfl⟩
    have := ha.cost (hv b hb)
    have : opsCost (if f then [Op.mis M_EOF true] else []) ≤ 1 := by
      cases f <;> simp [opCost]
    rw [opsCost_append]
    omega
  have := opCost_corr_le C_NONZERO_PADDING pad 8 (by omega) hpad
  have : opCost (Op.mis M_EOF false) = 2 := rfl
  simp only [opsCost_append, opsCost_cons, opsCost_nil]
  omega

theorem encStream_cost (P : Pred H) (hb : PredTight P) (plain : Array Nat) (blocks : List Block)
    (pad : Nat) (hv : StreamValid plain blocks) (hpad : pad < 256)
    (ops : List Op) (he : encStream P plain blocks pad = .ok ops) :
    opsCost ops ≤ 32 * blocksBits blocks + 19 :=
  (encStream_ops P plain (.ofTight hb) blocks
    (fun _ => ⟨fun n hn => Nat.lt_of_le_of_lt hn (by decide), fun f m _ => hb.bitlen f m⟩) pad hv ops he).cost
    (blocksSmall_of_valid plain blocks 0 hv.2.1) hpad

end Preflate.Proofs

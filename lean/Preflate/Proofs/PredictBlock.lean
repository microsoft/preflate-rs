/-
C02/C08, blocks (token_predictor.rs, process.rs). The token count the encoder transmits (or leaves to the
predictor's block size) makes the decoder's token loop stop after exactly the block's tokens
(`encTokBlock_rt`). `encTokBlock` / `decTokBlock` name what fixed and dynamic blocks share; `decTail` names the
`is_eof` check followed by the block loop, which is what the induction over the blocks is about.
-/
import Preflate.Proofs.PredictTok
import Preflate.Proofs.PredictTree
namespace Preflate.Proofs
open Preflate

variable {H : Type}

theorem commitStored_pos (P : Pred H) (plain : Array Nat) : ∀ (n : Nat) (s : PState H),
    (commitStored P plain n s).pos = s.pos + n := by
  intro n
  induction n with
  | zero => intro s; simp [commitStored]
  | succ n ih => intro s; simp [commitStored, ih]; omega

theorem commitStored_pending (P : Pred H) (plain : Array Nat) : ∀ (n : Nat) (s : PState H),
    (commitStored P plain n s).pending = s.pending := by
  intro n
  induction n with
  | zero => intro s; rfl
  | succ n ih => intro s; rw [commitStored, ih]

def encTokBlock (P : Pred H) (plain : Array Nat) (s : PState H) (btn : Nat) (ts : List Token) (last : Bool)
    (tree : R (List Op)) : R (List Op × PState H) := do
  let n := ts.length
  if n ≥ 2 ^ 32 then throw (.panic "predict_block: u32::try_from(tokens.len())")
  let tc := if (!last && n ≠ P.maxTokenCount) || n > P.maxTokenCount
            then Op.corr C_TOKEN_COUNT (n + 1) else Op.corr C_TOKEN_COUNT 0
  let (tokOps, s) ← encToks P plain s ts
  let treeOps ← tree
  .ok (Op.corr C_BLOCK_TYPE (encDiff 0 btn) :: tc :: tokOps ++ treeOps, s)

theorem encBlock_fixed (P : Pred H) (plain : Array Nat) (s : PState H) (ts : List Token) (last : Bool) :
    encBlock P plain s (.fixed ts) last =
      encTokBlock P plain { s with count := 0, pending := none } 2 ts last (pure []) := rfl

theorem encBlock_dynamic (P : Pred H) (plain : Array Nat) (s : PState H) (h : Header) (ts : List Token)
    (last : Bool) :
    encBlock P plain s (.dynamic h ts) last =
      encTokBlock P plain { s with count := 0, pending := none } 0 ts last (encTree P h (blockFreq ts)) := rfl

theorem encTokBlock_ok {P : Pred H} {plain : Array Nat} {s : PState H} {btn : Nat} {ts : List Token}
    {last : Bool} {tree : R (List Op)} {ops : List Op} {s' : PState H}
    (he : encTokBlock P plain s btn ts last tree = .ok (ops, s')) :
    ∃ tokOps treeOps, ts.length < 2 ^ 32 ∧ encToks P plain s ts = .ok (tokOps, s') ∧ tree = .ok treeOps ∧
      ops = Op.corr C_BLOCK_TYPE (encDiff 0 btn) ::
        Op.corr C_TOKEN_COUNT (if ((!last && ts.length ≠ P.maxTokenCount) || ts.length > P.maxTokenCount)
          then ts.length + 1 else 0) :: tokOps ++ treeOps := by
  unfold encTokBlock at he
  by_cases hn : ts.length ≥ 2 ^ 32
  · rw [if_pos hn] at he
    cases he
  · rw [if_neg hn] at he
    obtain ⟨⟨tokOps, s1⟩, htok, he⟩ := (bind_eq_ok ..).mp he
    obtain ⟨treeOps, htree, he⟩ := (bind_eq_ok ..).mp he
    cases he
    exact ⟨tokOps, treeOps, Nat.lt_of_not_le hn, htok, htree, by rw [← apply_ite (Op.corr C_TOKEN_COUNT)]⟩

theorem encBlock_pos {P : Pred H} {plain : Array Nat} {s : PState H} {b : Block} {last : Bool}
    {ops : List Op} {s' : PState H} (he : encBlock P plain s b last = .ok (ops, s')) :
    s'.pos = blockEnd s.pos b := by
  cases b with
  | stored pad data =>
    cases he
    exact commitStored_pos ..
  | fixed ts =>
    obtain ⟨_, _, _, ht, _⟩ := encTokBlock_ok he
    exact (encToks_state _ _ _ _ _ _ ht).1
  | dynamic h ts =>
    obtain ⟨_, _, _, ht, _⟩ := encTokBlock_ok he
    exact (encToks_state _ _ _ _ _ _ ht).1

def decTokBlock (P : Pred H) (plain : Array Nat) (s : PState H) (ops : List Op) :
    R (List Token × List Op × PState H) := do
  let (tc, ops) ← popCorr C_TOKEN_COUNT ops
  let blocksize := if tc = 0 then P.maxTokenCount else tc - 1
  decToks P plain blocksize (blocksize + 1) s ops

theorem encTokBlock_rt (P : Pred H) (plain : Array Nat) (s0 : PState H) (btn : Nat) (ts : List Token)
    (last : Bool) (tree : R (List Op)) (hc : s0.count = 0) (hv : ValidToks plain s0.pos ts)
    (hlast : last = true → toksEnd s0.pos ts = plain.size)
    (ops : List Op) (s' : PState H) (he : encTokBlock P plain s0 btn ts last tree = .ok (ops, s')) :
    ∃ ops' treeOps, ops = Op.corr C_BLOCK_TYPE (encDiff 0 btn) :: (ops' ++ treeOps) ∧ tree = .ok treeOps ∧
      s'.pos = toksEnd s0.pos ts ∧
      ∀ rest, decTokBlock P plain s0 (ops' ++ rest) = .ok (ts, rest, s') := by
  obtain ⟨tokOps, treeOps, -, htok, htree, rfl⟩ := encTokBlock_ok he
  obtain ⟨hp, hcnt⟩ := encToks_state P plain ts s0 tokOps s' htok
  rw [hc, Nat.zero_add] at hcnt
  refine ⟨_ :: tokOps, treeOps, rfl, htree, hp, fun rest => ?_⟩
  rw [decTokBlock, List.cons_append, popCorr_cons, ok_bind]
  dsimp only
  by_cases hcond : ((!last && ts.length ≠ P.maxTokenCount) || ts.length > P.maxTokenCount) = true
  · -- the count was transmitted: the loop stops on the count
    rw [if_pos hcond, if_neg (Nat.succ_ne_zero _), Nat.add_sub_cancel]
    exact decToks_encToks P plain _ ts s0 tokOps s' _ rest hv htok (by omega) (by omega) (by simp [hcnt])
  · -- the predictor's block size: reached, or this is the last block and the loop stops at end of input
    rw [if_neg hcond, if_pos rfl]
    simp at hcond
    refine decToks_encToks P plain _ ts s0 tokOps s' _ rest hv htok (by omega) (by omega) ?_
    cases last with
    | true => simp [PState.eof, hp, hlast rfl]
    | false => simp [hcnt, hcond.1 rfl]

theorem decBlock_tok (P : Pred H) (plain : Array Nat) (s : PState H) (bt : Nat) (ops : List Op)
    (h : bt = 2 ∨ bt = 0) :
    decBlock P plain s (Op.corr C_BLOCK_TYPE (encDiff 0 bt) :: ops) = (do
      let (ts, ops, s) ← decTokBlock P plain { s with count := 0, pending := none } ops
      if bt = 2 then .ok (.fixed ts, ops, s)
      else do
        let (h, ops) ← decTree P (blockFreq ts) ops
        .ok (.dynamic h ts, ops, s)) := by
  have h1 : ¬ bt = 1 := by omega
  unfold decBlock decTokBlock
  rw [popCorr_cons, ok_bind]
  dsimp only
  rw [decDiff_encDiff, ok_bind, if_neg h1, if_pos h]
  cases popCorr C_TOKEN_COUNT ops <;> rfl

theorem decBlock_encBlock (P : Pred H) (plain : Array Nat) (s : PState H) (b : Block) (last : Bool)
    (hv : ValidBlock plain s.pos b) (hlast : last = true → blockEnd s.pos b = plain.size)
    (ops : List Op) (s' : PState H) (he : encBlock P plain s b last = .ok (ops, s')) (rest : List Op) :
    decBlock P plain s (ops ++ rest) = .ok (b, rest, s') ∧ s'.pos = blockEnd s.pos b ∧ 1 ≤ ops.length := by
  refine ⟨?_, encBlock_pos he, ?_⟩
  · cases b with
    | stored pad data =>
      obtain ⟨hpad, hlen, hsz, hdata⟩ := hv
      cases he
      have e3 : ¬ (s.pos + data.length > plain.size) := by omega
      simp only [decBlock, blockTypeNum, List.cons_append, List.nil_append, popCorr_cons, popValue_cons, ok_bind,
        decDiff_encDiff, if_true, Nat.mod_eq_of_lt hlen, Nat.mod_eq_of_lt hpad, e3, if_false, ← hdata]
    | fixed ts =>
      obtain ⟨ops', treeOps, rfl, htree, -, hdec⟩ :=
        encTokBlock_rt P plain ⟨s.h, none, s.pos, 0⟩ 2 ts last _ rfl hv.1 hlast ops s' he
      cases htree
      rw [List.cons_append, decBlock_tok _ _ _ _ _ (Or.inl rfl), List.append_nil, hdec rest]
      rfl
    | dynamic h ts =>
      obtain ⟨ops', treeOps, rfl, htree, -, hdec⟩ :=
        encTokBlock_rt P plain ⟨s.h, none, s.pos, 0⟩ 0 ts last _ rfl hv.1 hlast ops s' he
      rw [List.cons_append, decBlock_tok _ _ _ _ _ (Or.inr rfl), List.append_assoc, hdec (treeOps ++ rest), ok_bind]
      dsimp only
      rw [if_neg (by decide), decTree_encTree P h hv.2.2 (blockFreq ts) treeOps htree rest]
      rfl
  · cases b with
    | stored pad data =>
      cases he
      exact Nat.le_add_left ..
    | fixed ts =>
      obtain ⟨_, _, -, -, -, rfl⟩ := encTokBlock_ok he
      exact Nat.le_add_left ..
    | dynamic h ts =>
      obtain ⟨_, _, -, -, -, rfl⟩ := encTokBlock_ok he
      exact Nat.le_add_left ..

theorem encBlocks_cons_ok {P : Pred H} {plain : Array Nat} {s : PState H} {b : Block} {bs : List Block}
    {ops : List Op} {s' : PState H} (he : encBlocks P plain s (b :: bs) = .ok (ops, s')) :
    ∃ a s1 r, encBlock P plain s b bs.isEmpty = .ok (a, s1) ∧ encBlocks P plain s1 bs = .ok (r, s') ∧
      ops = (if s.eof plain then [Op.mis M_EOF true] else []) ++ a ++ r := by
  rw [encBlocks] at he
  obtain ⟨⟨a, s1⟩, h1, he⟩ := (bind_eq_ok ..).mp he
  obtain ⟨⟨r, s2⟩, h2, he⟩ := (bind_eq_ok ..).mp he
  cases he
  exact ⟨a, s1, r, h1, h2, rfl⟩

theorem encStream_ok {P : Pred H} {plain : Array Nat} {blocks : List Block} {pad : Nat} {ops : List Op}
    (he : encStream P plain blocks pad = .ok ops) :
    ∃ b s, encBlocks P plain ⟨P.init, none, 0, 0⟩ blocks = .ok (b, s) ∧ s.eof plain = true ∧
      ops = b ++ [Op.mis M_EOF false, Op.corr C_NONZERO_PADDING pad] := by
  unfold encStream at he
  obtain ⟨⟨b, s⟩, hb, he⟩ := (bind_eq_ok ..).mp he
  dsimp only at he
  cases heof : s.eof plain with
  | false =>
    rw [heof] at he
    cases he
  | true =>
    rw [heof] at he
    cases he
    exact ⟨b, s, hb, heof, rfl⟩

/-- `is_eof` check followed by the block loop (what `recreate_blocks` does after every block) -/
def decTail (P : Pred H) (plain : Array Nat) (fuel : Nat) (s : PState H) (ops : List Op) :
    R (List Block × List Op × PState H) := do
  let (isEof, ops) ← decIsEof plain s ops
  if isEof then .ok ([], ops, s) else decBlocks P plain fuel s ops

theorem decBlocks_succ (P : Pred H) (plain : Array Nat) (fuel : Nat) (s : PState H) (ops : List Op) :
    decBlocks P plain (fuel + 1) s ops = (do
      let (b, ops, s) ← decBlock P plain s ops
      let (r, ops, s) ← decTail P plain fuel s ops
      .ok (b :: r, ops, s)) := by
  simp only [decBlocks, decTail, bind, Except.bind]
  cases decBlock P plain s ops with
  | error e => rfl
  | ok v =>
    obtain ⟨b, ops1, s1⟩ := v
    simp only
    cases decIsEof plain s1 ops1 with
    | error e => rfl
    | ok w =>
      obtain ⟨isEof, ops2⟩ := w
      cases isEof <;> simp

theorem decIsEof_enc (plain : Array Nat) (s : PState H) (ops : List Op) :
    decIsEof plain s ((if s.eof plain then [Op.mis M_EOF true] else []) ++ ops) = .ok (false, ops) := by
  unfold decIsEof
  cases h : s.eof plain <;> simp [bind, Except.bind]

theorem decTail_encBlocks (P : Pred H) (plain : Array Nat) :
    ∀ (blocks : List Block) (s : PState H) (ops : List Op) (s' : PState H) (fuel : Nat),
    ValidBlocks plain s.pos blocks → blocksEnd s.pos blocks = plain.size →
    encBlocks P plain s blocks = .ok (ops, s') → ops.length < fuel →
    ∀ rest, decTail P plain fuel s (ops ++ Op.mis M_EOF false :: rest) = .ok (blocks, rest, s') := by
  intro blocks
  induction blocks with
  | nil =>
    intro s ops s' fuel _ hend he _ rest
    cases he
    have heof : s.eof plain = true := decide_eq_true (Nat.le_of_eq hend.symm)
    simp [decTail, decIsEof, heof, bind, Except.bind]
  | cons b bs ih =>
    intro s ops s' fuel hv hend he hf rest
    obtain ⟨hvb, hvbs⟩ := hv
    obtain ⟨a, s1, r, h1, h2, rfl⟩ := encBlocks_cons_ok he
    have hlast : bs.isEmpty = true → blockEnd s.pos b = plain.size := fun hb => by
      rw [List.isEmpty_iff.mp hb] at hend
      exact hend
    obtain ⟨hdb, hp1, hlen⟩ :=
      decBlock_encBlock P plain s b bs.isEmpty hvb hlast a s1 h1 (r ++ Op.mis M_EOF false :: rest)
    obtain ⟨f, rfl⟩ : ∃ f, fuel = f + 1 := ⟨fuel - 1, by omega⟩
    have hrec := ih s1 r s' f (by rw [hp1]; exact hvbs) (by rw [hp1]; exact hend) h2
      (by simp at hf; omega) rest
    simp only [decTail, List.append_assoc, decIsEof_enc, bind, Except.bind, Bool.false_eq_true, if_false]
    rw [decBlocks_succ]
    simp only [bind, Except.bind, hdb, hrec]

end Preflate.Proofs

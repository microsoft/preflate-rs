/-
SIZE OF THE CORRECTION DATA: the VP8 bool coder (Model/VP8.lean).

Every decision handed to `VP8Writer` renormalises the interval by at most 7 bits (`lz8 range ≤ 7` for
`1 ≤ range ≤ 255`), the writer starts with 0 bits, `new` and `finish` add 1 + 32 decisions, a byte is
pushed for every 8 bits shifted (`WT w = 8 * buffer.size + Wk w`, Proofs/VP8Writer.lean) and `finish`
appends at most one more byte. Hence

    8 * (writeEvents evs).size ≤ 7 * evs.length + 239,

in particular at most one byte per decision plus 30.
-/
import Preflate.Proofs.VP8
namespace Preflate.Proofs
open Preflate Preflate.VP8

theorem putSplit_WT_le (w : Writer) (b : Bool) (s : Nat) (hw : WInv w) (hs : 0 < s ∧ s < w.range) :
    WT (w.putSplit b s) ≤ WT w + 7 := by
  have st := putSplit_spec w b s hw hs
  rw [st.WT_eq]
  exact Nat.add_le_add_left st.shift_le _

theorem fold_WT_le (evs : List Ev) : ∀ (w : Writer) (cs : Array Nat), WInv w →
    WInv (evs.foldl stepW (w, cs)).1 ∧ WT (evs.foldl stepW (w, cs)).1 ≤ WT w + 7 * evs.length := by
  induction evs with
  | nil => intro w cs hw; exact ⟨hw, Nat.le_refl _⟩
  | cons e evs ih =>
    intro w cs hw
    obtain ⟨s, hs, he⟩ := stepW_split w cs e hw
    have h2 : WT (stepW (w, cs) e).1 ≤ WT w + 7 := he ▸ putSplit_WT_le w e.bit s hw hs
    obtain ⟨h3, h4⟩ := ih (stepW (w, cs) e).1 (stepW (w, cs) e).2 (stepW_inv w cs e hw)
    rw [Prod.mk.eta] at h3 h4
    rw [List.foldl_cons, List.length_cons]
    exact ⟨h3, by omega⟩

/-- `finish`: 32 padding decisions of at most 7 bits (224) and at most one extra byte -/
theorem finish_size_le (w : Writer) (hw : WInv w) : 8 * w.finish.size ≤ WT w + 232 := by
  obtain ⟨D, hF, _, hD⟩ := pad32 w hw
  have hT := hF.hT
  rw [WT] at hT
  rcases finish_cases w with e | e
  · rw [e]; omega
  · rw [e, Array.size_push]; omega

theorem writeEvents_size_le8 (evs : List Ev) : 8 * (writeEvents evs).size ≤ 7 * evs.length + 239 := by
  rw [writeEvents_eq]
  have hn7 : WT Writer.new ≤ WT ({} : Writer) + 7 :=
    putSplit_WT_le _ false _ winv_init (put_bounds _ 0x101 winv_init)
  have h0 : WT ({} : Writer) = 0 := by simp [WT, Wk]
  obtain ⟨h1, h2⟩ := fold_WT_le evs Writer.new freshContexts winv_new
  have h3 := finish_size_le _ h1
  omega

theorem writeEvents_size_le (evs : List Ev) : (writeEvents evs).size ≤ evs.length + 30 := by
  have := writeEvents_size_le8 evs
  omega

end Preflate.Proofs

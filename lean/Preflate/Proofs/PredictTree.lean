/-
C02/C08, the dynamic header (tree_predictor.rs): the three counts, the run-length items and the lengths of the
code-length code are each read back as written, whatever the bit-length calculator answers.
-/
import Preflate.Proofs.PredictTok
import Preflate.Proofs.Tables
namespace Preflate.Proofs
open Preflate Gen
namespace Tree

theorem ext_getD (l1 l2 : List Nat) (hl : l1.length = l2.length)
    (h : ∀ k, k < l1.length → l1.getD k 0 = l2.getD k 0) : l1 = l2 := by
  apply List.ext_getElem hl
  intro i h1 h2
  have := h i h1
  simpa [List.getD_eq_getElem?_getD, h1, h2] using this

/-- the accumulator after `decTcLengths` has read back `n` lengths starting at order index `i` -/
def setTc (cl : List Nat) : Nat → Nat → List Nat → List Nat
  | 0, _, acc => acc
  | n + 1, i, acc =>
      setTc cl n (i + 1) (acc.set (TREE_CODE_ORDER_TABLE.getD i 0) (cl.getD (TREE_CODE_ORDER_TABLE.getD i 0) 0 % 256))

theorem decTc_encTc (tc cl : List Nat) (rest : List Op) (n : Nat) :
    ∀ (i : Nat) (acc : List Nat),
      decTcLengths tc n i acc (encTcLengths tc cl n i ++ rest) = .ok (setTc cl n i acc, rest) := by
  induction n with
  | zero => intro i acc; simp [decTcLengths, encTcLengths, setTc]
  | succ n ih =>
    intro i acc
    rw [decTcLengths, encTcLengths]
    simp only [List.cons_append, popCorr_cons, bind, Except.bind, decDiff_encDiff]
    rw [ih, setTc]

theorem setTc_length (cl : List Nat) (n : Nat) : ∀ (i : Nat) (acc : List Nat),
    (setTc cl n i acc).length = acc.length := by
  induction n with
  | zero => intro i acc; rfl
  | succ n ih => intro i acc; rw [setTc, ih, List.length_set]

open Classical in
theorem setTc_getD (cl : List Nat) (k : Nat) (n : Nat) : ∀ (i : Nat) (acc : List Nat),
    acc.length = 19 → k < 19 →
    (setTc cl n i acc).getD k 0 =
      if (∃ j, i ≤ j ∧ j < i + n ∧ TREE_CODE_ORDER_TABLE.getD j 0 = k) then cl.getD k 0 % 256 else acc.getD k 0 := by
  induction n with
  | zero => intro i acc _ _; simp [setTc]; intro x h1 h2; omega
  | succ n ih =>
    intro i acc hl hk
    rw [setTc, ih _ _ (by simp [hl]) hk]
    by_cases ho : TREE_CODE_ORDER_TABLE.getD i 0 = k
    · have h1 : ∃ j, i ≤ j ∧ j < i + (n + 1) ∧ TREE_CODE_ORDER_TABLE.getD j 0 = k := ⟨i, by omega, by omega, ho⟩
      rw [if_pos h1]
      split
      · rfl
      · rw [ho]; simp [List.getD_eq_getElem?_getD, hl, hk]
    · have h2 : (acc.set (TREE_CODE_ORDER_TABLE.getD i 0) (cl.getD (TREE_CODE_ORDER_TABLE.getD i 0) 0 % 256)).getD k 0
          = acc.getD k 0 := by
        generalize cl.getD (TREE_CODE_ORDER_TABLE.getD i 0) 0 % 256 = v
        generalize TREE_CODE_ORDER_TABLE.getD i 0 = o at ho
        simp [List.getD_eq_getElem?_getD, ho]
      rw [h2]
      have h3 : (∃ j, i + 1 ≤ j ∧ j < i + 1 + n ∧ TREE_CODE_ORDER_TABLE.getD j 0 = k) ↔
          (∃ j, i ≤ j ∧ j < i + (n + 1) ∧ TREE_CODE_ORDER_TABLE.getD j 0 = k) := by
        constructor
        · rintro ⟨j, a, b, c⟩; exact ⟨j, by omega, by omega, c⟩
        · rintro ⟨j, a, b, c⟩
          have : j ≠ i := by intro e; subst e; exact ho c
          exact ⟨j, by omega, by omega, c⟩
      simp only [h3]

theorem setTc_eq (cl : List Nat) (n : Nat) (hlen : cl.length = 19) (hsmall : ∀ x ∈ cl, x < 8)
    (hun : ∀ i, n ≤ i → i < 19 → cl.getD (TREE_CODE_ORDER_TABLE.getD i 0) 0 = 0) :
    setTc cl n 0 (List.replicate CODETREE_CODE_COUNT 0) = cl := by
  apply ext_getD
  · rw [setTc_length]; simp [CODETREE_CODE_COUNT, hlen]
  · intro k hk
    rw [setTc_length] at hk
    have hk : k < 19 := by simpa [CODETREE_CODE_COUNT] using hk
    rw [setTc_getD cl k n 0 _ (by simp [CODETREE_CODE_COUNT]) hk]
    split
    · have : cl.getD k 0 < 8 := by
        have hk' : k < cl.length := by omega
        simp only [List.getD_eq_getElem?_getD, List.getElem?_eq_getElem hk', Option.getD_some]
        exact hsmall _ (List.getElem_mem hk')
      omega
    · rename_i hne
      obtain ⟨j, hj, hjk⟩ := order_surj k hk
      have hnj : n ≤ j := by
        apply Nat.le_of_not_lt; intro hlt
        exact hne ⟨j, by omega, by omega, hjk⟩
      have := hun j hnj hj
      rw [hjk] at this
      rw [this]
      generalize CODETREE_CODE_COUNT = m
      simp only [List.getD_eq_getElem?_getD, List.getElem?_replicate]
      split <;> rfl

/-- `HeaderValid.items_kind` for one item -/
def ItemOk (it : RleItem) : Prop :=
    (it.kind = 0 ∧ it.data ≤ 15) ∨ (it.kind = 16 ∧ 3 ≤ it.data ∧ it.data ≤ 6) ∨
    (it.kind = 17 ∧ 3 ≤ it.data ∧ it.data ≤ 10) ∨ (it.kind = 18 ∧ 11 ≤ it.data ∧ it.data ≤ 138)

theorem itemSpan_pos (it : RleItem) (h : ItemOk it) : 1 ≤ itemSpan it := by
  unfold itemSpan; unfold ItemOk at h; split <;> omega

theorem decLd_encLd (items : List RleItem) :
  ∀ (fuel : Nat) (syms : List Nat) (prev : Option Nat) (ops rest : List Op),
    (∀ it ∈ items, ItemOk it) →
    (items.map itemSpan).sum = syms.length →
    syms.length < fuel →
    encLdTrees syms prev items = .ok ops →
    decLdTrees fuel syms prev (ops ++ rest) = .ok (items, rest) := by
  induction items with
  | nil =>
    intro fuel syms prev ops rest _ hs hf he
    cases he
    obtain ⟨f, rfl⟩ : ∃ f, fuel = f + 1 := ⟨fuel - 1, by omega⟩
    rw [List.length_eq_zero_iff.mp hs.symm]
    rfl
  | cons it items ih =>
    intro fuel syms prev ops rest hok hs hf he
    obtain ⟨f, rfl⟩ : ∃ f, fuel = f + 1 := ⟨fuel - 1, by omega⟩
    have hit : ItemOk it := hok it (List.mem_cons_self ..)
    have hpos := itemSpan_pos it hit
    simp only [List.map_cons, List.sum_cons] at hs
    rw [encLdTrees] at he
    by_cases hne : syms.isEmpty
    · rw [if_pos hne] at he
      cases he
    rw [if_neg hne] at he
    by_cases hspan : itemSpan it > syms.length
    · rw [if_pos hspan] at he
      cases he
    rw [if_neg hspan] at he
    obtain ⟨r, hr, he⟩ := (bind_eq_ok ..).mp he
    cases he
    have ih' := ih f _ _ r rest (fun x hx => hok x (List.mem_cons_of_mem _ hx))
      (by rw [List.length_drop]; omega) (by rw [List.length_drop]; omega) hr
    have hdata : it.data % 256 = it.data := by
      unfold ItemOk at hit
      omega
    have hkind : ¬¬ (it.kind = 0 ∨ it.kind = 16 ∨ it.kind = 17 ∨ it.kind = 18) := by
      unfold ItemOk at hit
      omega
    have hctx : (if it.kind ≠ 0 then Op.corr C_REPEAT_COUNT (encDiff (predictCodeData syms it.kind) it.data)
        else Op.corr C_LD_BITLEN (encDiff (predictCodeData syms it.kind) it.data)) =
        Op.corr (if it.kind ≠ 0 then C_REPEAT_COUNT else C_LD_BITLEN)
          (encDiff (predictCodeData syms it.kind) it.data) := by
      split <;> rfl
    rw [decLdTrees, if_neg hne, hctx]
    simp only [List.cons_append, popCorr_cons, ok_bind, decDiff_encDiff, hdata]
    rw [if_neg hkind, show itemSpan ⟨it.kind, it.data⟩ = itemSpan it from rfl, if_neg hspan, ih']
    rfl

theorem resizeTo_length (l : List Nat) (n : Nat) : (resizeTo l n).length = n := by
  simp [resizeTo]; omega

theorem fit_length (l : List Nat) (n : Nat) : (if l.length ≠ n then resizeTo l n else l).length = n := by
  split
  · exact resizeTo_length l n
  · omega

end Tree
open Tree
variable {H : Type}

/-- a count that is only transmitted when predicted wrong, read back -/
theorem readCount_bind {α β : Type} (c : Prop) [Decidable c] (bits v : Nat) (f : Nat → α) (a : α) (tail : List Op)
    (k : α × List Op → R β) :
    ((if decide c = true then
        popValue bits ((if c then [Op.value bits v] else []) ++ tail) >>= fun x => pure (f x.fst, x.snd)
      else pure (a, (if c then [Op.value bits v] else []) ++ tail)) >>= k) =
      k (if c then f v else a, tail) := by
  by_cases hc : c <;> simp [hc, bind, Except.bind, pure, Except.pure]

theorem ite_mis_value_eq_cons (c : Prop) [Decidable c] (ctx bits v : Nat) :
    (if c then [Op.mis ctx true, Op.value bits v] else [Op.mis ctx false]) =
      Op.mis ctx (decide c) :: if c then [Op.value bits v] else [] := by
  by_cases hc : c <;> simp [hc]

theorem sub_mod_add {n lo : Nat} (h1 : lo ≤ n) (h2 : n < lo + 65536) : (n - lo) % 65536 + lo = n := by
  rw [Nat.mod_eq_of_lt (by omega), Nat.sub_add_cancel h1]

/-- recreate_tree_for_block inverts predict_tree_for_block, for ANY bit-length calculator -/
theorem decTree_encTree (P : Pred H) (h : Header) (hv : HeaderValid h) (freq : List Nat × List Nat)
    (ops : List Op) (he : encTree P h freq = .ok ops) (rest : List Op) :
    decTree P freq (ops ++ rest) = .ok (h, rest) := by
  unfold encTree at he
  unfold decTree
  generalize P.calcBitLengths freq.1 15 = bl0 at he ⊢
  generalize P.calcBitLengths freq.2 15 = dl0 at he ⊢
  dsimp only at he
  have hlit : (h.numLiterals - 257) % 65536 + NONLEN_CODE_COUNT = h.numLiterals :=
    sub_mod_add hv.lit_lo (Nat.lt_of_le_of_lt hv.lit_hi (by decide))
  have hdist := sub_mod_add hv.dist_lo (Nat.lt_of_le_of_lt hv.dist_hi (by decide))
  have hcl := sub_mod_add hv.cl_lo (Nat.lt_of_le_of_lt hv.cl_hi (by decide))
  have hcl19 : ¬ h.numCodeLengths > CODETREE_CODE_COUNT := Nat.not_lt.mpr hv.cl_hi
  have hsum : (List.map itemSpan h.items).sum =
      ((if bl0.length ≠ h.numLiterals then resizeTo bl0 h.numLiterals else bl0) ++
        if dl0.length ≠ h.numDist then resizeTo dl0 h.numDist else dl0).length := by
    rw [List.length_append, fit_length, fit_length]
    exact hv.items_sum
  rw [if_neg (not_not_intro hsum)] at he
  obtain ⟨c, hc, he⟩ := (bind_eq_ok ..).mp he
  cases he
  have hld := fun tail => decLd_encLd h.items _ _ none c tail hv.items_kind hsum (Nat.lt_succ_self _) hc
  generalize htc0 : P.calcBitLengths (codetreeFreq h.items (List.replicate CODETREE_CODE_COUNT 0)) 7 = tc0
  generalize htl : tcLenNoTrailing tc0 tc0.length = tl
  have htc : (if tl ≠ h.numCodeLengths then h.numCodeLengths else tl) = h.numCodeLengths := by
    split
    · rfl
    · omega
  simp only [List.append_assoc, List.cons_append, List.nil_append, ite_mis_value_eq_cons, ↓popMis_bind,
    ↓readCount_bind (bl0.length ≠ h.numLiterals) 5 _ (fun v => resizeTo bl0 (v + NONLEN_CODE_COUNT)) bl0,
    ↓readCount_bind (dl0.length ≠ h.numDist) 5 _ (fun v => resizeTo dl0 (v + 1)) dl0,
    readCount_bind (tl ≠ h.numCodeLengths) 4 _ (· + 4) tl, htc0,
    hlit, hdist, hcl, hld, htl, htc, ok_bind, hcl19, if_false, decTc_encTc,
    setTc_eq h.codeLengths h.numCodeLengths hv.cl_len hv.cl_small hv.cl_unused, fit_length]

end Preflate.Proofs

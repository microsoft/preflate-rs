/-
The match finder of the executable predictor `Chains.pred p` (Model/Chains.lean) in the form the
proofs use it, and `PredBounded` for that predictor.

`matchToken_eq` rewrites `match_token_offset` once into its entry tests followed by `matchLoop`, a plain
recursion over the candidate list; `predictTok_ans` lists the answers of `predict_token`. Everything
else about the two (here, in Proofs/ChainsSafe.lean and Proofs/CorrBoundChains.lean) is derived from
these without opening the `do` blocks again.

Token part of `PredBounded`, for EVERY parameter vector (`EstimatorRange` is not needed):
`match_token_offset` only ever answers lengths produced by `prefix_compare`, which are at most
`max 3 max_len` with `max_len = min(remaining, 258)`, so at most 258; `predict_token` answers such a
length or the stored pending reference (bounded by the state invariant `PendBounded`),
`repredict_reference` such a length.

Bit-length part: in the source `calc_bit_lengths` returns `Vec<u8>`; `Chains.pred` models that typing
(`% 256` on every entry), which is all the bound needs.
-/
import Preflate.Model.Chains
import Preflate.Model.PredBounded
import Preflate.Proofs.OpsWF
import Preflate.Proofs.ArrayLoops
namespace Preflate.Proofs
open Preflate Preflate.Chains

theorem numHashBytes_cases (p : Params) : numHashBytes p = 3 ∨ numHashBytes p = 4 := by
  unfold numHashBytes
  split <;> simp

theorem numHashBytes_ge3 (p : Params) : 3 ≤ numHashBytes p := by
  have := numHashBytes_cases p
  omega

theorem numHashBytes_alg3 (p : Params) (h : p.hashAlg = 3) : numHashBytes p = 4 := by
  unfold numHashBytes; rw [h]; rfl

/-- `prefix_compare` answers 0 (mismatch at `best_len` or in the first three bytes) or a length from 3
    up to `max_len` -/
theorem prefixCompare_range (plain : Array Nat) (a b bestLen maxLen : Nat) :
    prefixCompare plain a b bestLen maxLen = 0 ∨
      3 ≤ prefixCompare plain a b bestLen maxLen ∧ prefixCompare plain a b bestLen maxLen ≤ max 3 maxLen := by
  unfold prefixCompare
  dsimp only
  split
  · exact .inl rfl
  split
  · exact .inl rfl
  right
  rw [Std.Legacy.Range.forIn_eq_forIn_range']
  refine forIn_list_inv (fun m => 3 ≤ m ∧ m ≤ max 3 maxLen) _ _ (fun i hi m hm => ?_) 3 (by omega)
  simp only [List.mem_range'_1, Std.Legacy.Range.size] at hi
  split
  · exact hm
  · show 3 ≤ i + 1 ∧ i + 1 ≤ max 3 maxLen
    omega

theorem prefixCompare_zero_of_ne (plain : Array Nat) (a b bestLen maxLen : Nat)
    (h : byteAt plain (a + bestLen) ≠ byteAt plain (b + bestLen)) :
    prefixCompare plain a b bestLen maxLen = 0 := by
  unfold prefixCompare
  rw [if_pos h]

theorem prefixCompare_three (plain : Array Nat) (a b bestLen : Nat) (hb : bestLen < 3)
    (h0 : byteAt plain a = byteAt plain b) (h1 : byteAt plain (a + 1) = byteAt plain (b + 1))
    (h2 : byteAt plain (a + 2) = byteAt plain (b + 2)) : prefixCompare plain a b bestLen 3 = 3 := by
  have hbl : byteAt plain (a + bestLen) = byteAt plain (b + bestLen) := by
    have : bestLen = 0 ∨ bestLen = 1 ∨ bestLen = 2 := by omega
    rcases this with h | h | h <;> subst h <;> simp_all
  unfold prefixCompare
  simp only [hbl, h0, h1, h2, ne_eq, not_true_eq_false, or_self, if_false]
  rw [Std.Legacy.Range.forIn_eq_forIn_range']
  simp [Std.Legacy.Range.size]

/-- the loop `for dist in self.hash.iterate(input, OFFSET)` of match_token_offset as a recursion over
    the candidate list (`Chains.matchLoopC` without the checks); state: `first`, `best_len`, `max_chain`
    (with the wrap of the u32 decrement in release builds), `best_match` -/
def matchLoop (p : Params) (plain : Array Nat) (startPos maxLen niceLength hop0 hop1 : Nat) :
    List Nat → Bool → Nat → Nat → MatchResult → MatchResult
  | [], _, _, _, best => best
  | dist :: rest, first, bestLen, maxChain, best =>
      if first = true ∧ dist > hop0 then .none
      else if first = false ∧ dist > hop1 then best
      else
        let ml := prefixCompare plain (startPos - dist) startPos bestLen maxLen
        let maxChain := if maxChain = 0 then 4294967295 else maxChain - 1
        if ml > bestLen then
          if ml ≥ niceLength ∧ (ml > 3 ∨ dist ≤ p.maxDist3) then .success ml dist
          else if ml ≥ maxLen then .success ml dist
          else if maxChain = 0 then .success ml dist
          else matchLoop p plain startPos maxLen niceLength hop0 hop1 rest false ml maxChain (.success ml dist)
        else if maxChain = 0 then best
        else matchLoop p plain startPos maxLen niceLength hop0 hop1 rest false bestLen maxChain best

/-- the loop of `Chains.matchToken`, entered in any state, is `matchLoop` -/
theorem matchLoop_forIn (p : Params) (plain : Array Nat) (startPos maxLen niceLength hop0 hop1 : Nat)
    (l : List Nat) (first : Bool) (bestLen maxChain : Nat) (best : MatchResult) :
    (Id.run do
      let mut maxChain := maxChain
      let mut bestLen := bestLen
      let mut best : MatchResult := best
      let mut first := first
      for dist in l do
        if first then
          first := false
          if dist > hop0 then return .none
        else if dist > hop1 then break
        let ml := prefixCompare plain (startPos - dist) startPos bestLen maxLen
        if ml > bestLen then
          if ml ≥ niceLength && (ml > 3 || dist ≤ p.maxDist3) then return .success ml dist
          bestLen := ml
          best := .success ml dist
          if bestLen ≥ maxLen then break
        maxChain := if maxChain = 0 then 4294967295 else maxChain - 1
        if maxChain = 0 then return best
      return best) = matchLoop p plain startPos maxLen niceLength hop0 hop1 l first bestLen maxChain best := by
  induction l generalizing first bestLen maxChain best with
  | nil => rfl
  | cons dist rest ih =>
    dsimp only
    rw [matchLoop, List.forIn_cons]
    dsimp only
    generalize prefixCompare plain (startPos - dist) startPos bestLen maxLen = ml
    generalize (if maxChain = 0 then 4294967295 else maxChain - 1) = mc
    have hnice : (decide (ml ≥ niceLength) && (decide (ml > 3) || decide (dist ≤ p.maxDist3))) = true ↔
        ml ≥ niceLength ∧ (ml > 3 ∨ dist ≤ p.maxDist3) := by
      simp only [Bool.and_eq_true, Bool.or_eq_true, decide_eq_true_eq]
    -- both sides are now the same tree of tests; `split` on a term of this size is far dearer than
    -- deciding each test and rewriting with it
    cases first
    case' true =>
      rw [if_pos rfl]
      by_cases hfar : dist > hop0
      · rw [if_pos hfar, if_pos ⟨rfl, hfar⟩]
        rfl
      rw [if_neg hfar, if_neg (not_and_of_not_right _ hfar), if_neg (not_and_of_not_left _ Bool.noConfusion)]
    case' false =>
      rw [if_neg Bool.false_ne_true, if_neg (not_and_of_not_left _ Bool.false_ne_true)]
      by_cases hfar : dist > hop1
      · rw [if_pos hfar, if_pos ⟨rfl, hfar⟩]
        rfl
      rw [if_neg hfar, if_neg (not_and_of_not_right _ hfar)]
    -- past the hop-limit test the loop has `first = false` in both cases
    all_goals
      by_cases c3 : ml > bestLen
      · rw [if_pos c3, if_pos c3]
        by_cases c4 : ml ≥ niceLength ∧ (ml > 3 ∨ dist ≤ p.maxDist3)
        · rw [if_pos c4, if_pos (hnice.mpr c4)]
          rfl
        rw [if_neg c4, if_neg (mt hnice.mp c4)]
        by_cases c5 : ml ≥ maxLen
        · rw [if_pos c5, if_pos c5]
          rfl
        rw [if_neg c5, if_neg c5]
        by_cases c6 : mc = 0
        · rw [if_pos c6, if_pos c6]
          rfl
        rw [if_neg c6, if_neg c6]
        exact ih false ml mc (.success ml dist)
      · rw [if_neg c3, if_neg c3]
        by_cases c6 : mc = 0
        · rw [if_pos c6, if_pos c6]
          rfl
        rw [if_neg c6, if_neg c6]
        exact ih false bestLen mc best

/-- the hop limits of `match_token_offset` for the first and the later candidates (`none`: the strategy
    never matches) -/
def mtLimits (p : Params) (startPos : Nat) : Option (Nat × Nat) :=
  let maxDistToStart := startPos - (if p.matchesToStart then 0 else 1)
  let windowBytes := 1 <<< p.windowBits
  if p.veryFar then some (min maxDistToStart windowBytes, min maxDistToStart windowBytes)
  else if p.strategy = 2 ∨ p.strategy = 3 then Option.none
  else if p.strategy = 1 then some (1, 1)
  else
    let maxDist := windowBytes - 262 + 1
    some (min maxDistToStart maxDist, min maxDistToStart (maxDist - 1))

/-- both hop limits stay within the input before `start_pos` -/
theorem mtLimits_le {p : Params} {startPos : Nat} {hops : Nat × Nat} (h : mtLimits p startPos = some hops)
    (hs : 1 ≤ startPos) : hops.1 ≤ startPos ∧ hops.2 ≤ startPos := by
  have hm : ∀ a, min (startPos - if p.matchesToStart = true then 0 else 1) a ≤ startPos :=
    fun a => Nat.le_trans (Nat.min_le_left ..) (Nat.sub_le ..)
  unfold mtLimits at h
  dsimp only at h
  by_cases hvf : p.veryFar = true
  · rw [if_pos hvf] at h
    cases h
    exact ⟨hm _, hm _⟩
  rw [if_neg hvf] at h
  by_cases hs23 : p.strategy = 2 ∨ p.strategy = 3
  · rw [if_pos hs23] at h
    cases h
  rw [if_neg hs23] at h
  by_cases hs1 : p.strategy = 1
  · rw [if_pos hs1] at h
    cases h
    exact ⟨hs, hs⟩
  · rw [if_neg hs1] at h
    cases h
    exact ⟨hm _, hm _⟩

/-- `Chains.matchToken`: its entry tests, then `matchLoop` over the chain candidates -/
theorem matchToken_eq (p : Params) (plain : Array Nat) (c : Chain) (pos offset prevLen maxDepth : Nat) :
    matchToken p plain c pos offset prevLen maxDepth =
      if p.hashAlg = 0 then .none
      else if min (plain.size - (pos + offset)) 258 < max (prevLen + 1) (max (numHashBytes p) 3) then .none
      else match mtLimits p (pos + offset) with
        | none => .none
        | some (hop0, hop1) =>
            matchLoop p plain (pos + offset) (min (plain.size - (pos + offset)) 258)
              (min p.niceLength (min (plain.size - (pos + offset)) 258)) hop0 hop1
              (iterate p plain c pos offset) true prevLen maxDepth .none := by
  unfold matchToken
  by_cases h0 : p.hashAlg = 0
  · rw [if_pos h0, if_pos h0]
  rw [if_neg h0, if_neg h0]
  -- the second test sits under the `have`s of the model term, where `rw` does not find it
  by_cases h1 : min (plain.size - (pos + offset)) 258 < max (prevLen + 1) (max (numHashBytes p) 3)
  · exact (if_pos h1).trans (if_pos h1).symm
  refine (if_neg h1).trans (.trans ?_ (if_neg h1).symm)
  change (match mtLimits p (pos + offset) with | none => _ | some (hop0, hop1) => _) = _
  cases mtLimits p (pos + offset) with
  | none => rfl
  | some hops => exact matchLoop_forIn ..

/-- a match result whose length is at most MAX_MATCH -/
def MRBounded : MatchResult → Prop
  | .none => True
  | .success l _ => l ≤ 258

/-- whatever the loop answers is `.none`, the best match so far, or a new match whose length
    `prefix_compare` produced -/
theorem matchLoop_bounded (p : Params) (plain : Array Nat) (startPos maxLen niceLength hop0 hop1 : Nat)
    (hml : maxLen ≤ 258) : ∀ (l : List Nat) (first : Bool) (bestLen maxChain : Nat) (best : MatchResult),
      MRBounded best → MRBounded (matchLoop p plain startPos maxLen niceLength hop0 hop1 l first bestLen maxChain best)
  | [], _, _, _, _, hb => hb
  | dist :: rest, first, bestLen, maxChain, best, hb => by
    have hs : MRBounded (.success (prefixCompare plain (startPos - dist) startPos bestLen maxLen) dist) := by
      have := prefixCompare_range plain (startPos - dist) startPos bestLen maxLen
      show _ ≤ 258
      omega
    rw [matchLoop]
    exact ite_both trivial (ite_both hb (ite_both
      (ite_both hs (ite_both hs (ite_both hs (matchLoop_bounded p plain _ _ _ _ _ hml rest _ _ _ _ hs))))
      (ite_both hb (matchLoop_bounded p plain _ _ _ _ _ hml rest _ _ _ _ hb))))

/-- a successful `match_token_offset` passed the entry tests and is an answer of the loop -/
theorem matchToken_success {p : Params} {plain : Array Nat} {c : Chain} {pos offset prevLen maxDepth l d : Nat}
    (h : matchToken p plain c pos offset prevLen maxDepth = .success l d) :
    p.hashAlg ≠ 0 ∧ max (prevLen + 1) (max (numHashBytes p) 3) ≤ min (plain.size - (pos + offset)) 258 ∧
    ∃ hop0 hop1, matchLoop p plain (pos + offset) (min (plain.size - (pos + offset)) 258)
      (min p.niceLength (min (plain.size - (pos + offset)) 258)) hop0 hop1
      (iterate p plain c pos offset) true prevLen maxDepth .none = .success l d := by
  rw [matchToken_eq] at h
  by_cases h0 : p.hashAlg = 0
  · rw [if_pos h0] at h
    cases h
  rw [if_neg h0] at h
  by_cases h1 : min (plain.size - (pos + offset)) 258 < max (prevLen + 1) (max (numHashBytes p) 3)
  · rw [if_pos h1] at h
    cases h
  rw [if_neg h1] at h
  cases hl : mtLimits p (pos + offset) with
  | none =>
    rw [hl] at h
    cases h
  | some hops =>
    rw [hl] at h
    exact ⟨h0, Nat.le_of_not_lt h1, hops.1, hops.2, h⟩

theorem matchToken_success_facts {p : Params} {plain : Array Nat} {c : Chain}
    {pos offset prevLen maxDepth l d : Nat}
    (h : matchToken p plain c pos offset prevLen maxDepth = .success l d) :
    p.hashAlg ≠ 0 ∧ numHashBytes p ≤ plain.size - (pos + offset) ∧ prevLen < plain.size - (pos + offset) := by
  obtain ⟨h0, hml, _⟩ := matchToken_success h
  obtain ⟨hprev, hnb⟩ := Nat.max_le.mp (Nat.le_min.mp hml).1
  exact ⟨h0, (Nat.max_le.mp hnb).1, hprev⟩

/-- `match_token_offset` never answers a length above MAX_MATCH -/
theorem matchToken_len_le {p : Params} {plain : Array Nat} {c : Chain} {pos offset prevLen maxDepth l d : Nat}
    (h : matchToken p plain c pos offset prevLen maxDepth = .success l d) : l ≤ 258 := by
  obtain ⟨_, _, hop0, hop1, hl⟩ := matchToken_success h
  show MRBounded (.success l d)
  rw [← hl]
  exact matchLoop_bounded p plain _ _ _ _ _ (Nat.min_le_right _ 258) _ _ _ _ _ trivial

theorem matchToken_lt_bound {p : Params} {plain : Array Nat} {c : Chain} {pos offset prevLen maxDepth l d : Nat}
    (h : matchToken p plain c pos offset prevLen maxDepth = .success l d) : l < PRED_BOUND :=
  Nat.lt_of_le_of_lt (matchToken_len_le h) (by decide)

theorem pendBounded_none : PendBounded (none : Option (Nat × Nat)) := fun _ _ h => by cases h

theorem pendBounded_some (l d : Nat) (h : l < PRED_BOUND) : PendBounded (some (l, d)) := by
  intro l' d' h'
  cases h'
  exact h

/-- The answers of `predict_token`: at the first position or with fewer than three bytes left a
    literal, the pending reference handed on; a literal; the first match — the pending reference, or
    what `match_token_0` found — as a reference; a literal, with the longer match that the lazy
    `match_token_1` found pending. -/
inductive PredictAns (p : Params) (plain : Array Nat) (s : PState Chain) : PTok × Option (Nat × Nat) → Prop
  | edge : s.pos = 0 ∨ plain.size - s.pos < 3 → PredictAns p plain s (.lit, s.pending)
  | lit : PredictAns p plain s (.lit, none)
  | ref (len dist : Nat) : s.pending = some (len, dist) ∨
        s.pending = none ∧ matchToken p plain s.h s.pos 0 0 p.maxChain = .success len dist →
      PredictAns p plain s (.ref len dist, none)
  | lazy (len depth l2 d2 : Nat) : matchToken p plain s.h s.pos 1 len depth = .success l2 d2 →
      PredictAns p plain s (.lit, some (l2, d2))

theorem predictTok_ans (p : Params) (plain : Array Nat) (s : PState Chain) :
    PredictAns p plain s (predictTok p plain s) := by
  unfold predictTok
  refine dite _ (fun hex => (if_pos hex).symm ▸ .edge hex) (fun hex => (if_neg hex).symm ▸ ?_)
  dsimp only
  split
  · exact .lit
  next len dist hm =>
    have hfirst : s.pending = some (len, dist) ∨
        s.pending = none ∧ matchToken p plain s.h s.pos 0 0 p.maxChain = .success len dist := by
      cases hp : s.pending with
      | none => rw [hp] at hm; exact .inr ⟨rfl, hm⟩
      | some ld => rw [hp] at hm; cases hm; exact .inl rfl
    refine ite_both .lit (ite_both .lit (ite_both ?_ (.ref _ _ hfirst)))
    split
    next l2 d2 h2 =>
      refine ite_both ?_ (.ref _ _ hfirst)
      cases p.zlibCompatible
      · exact .lit
      · exact .lazy _ _ _ _ h2
    · exact .ref _ _ hfirst

/-- `repredict_reference` answers what `match_token_0` finds, if that has at least three bytes -/
theorem repredictTok_ok {p : Params} {plain : Array Nat} {s : PState Chain} {l d : Nat}
    (h : repredictTok p plain s = .ok (l, d)) :
    matchToken p plain s.h s.pos 0 0 p.maxChain = .success l d ∧ 3 ≤ l := by
  unfold repredictTok at h
  by_cases hex : s.pos = 0 ∨ plain.size - s.pos < 3
  · rw [if_pos hex] at h
    cases h
  rw [if_neg hex] at h
  cases hm : matchToken p plain s.h s.pos 0 0 p.maxChain with
  | none =>
    rw [hm] at h
    cases h
  | success len dist =>
    rw [hm] at h
    dsimp only at h
    by_cases h3 : len ≥ 3
    · rw [if_pos h3] at h
      cases h
      exact ⟨rfl, h3⟩
    · rw [if_neg h3] at h
      cases h

theorem chains_repredict_only_err (p : Params) (plain : Array Nat) (s : PState Chain) (e : Fail)
    (h : (pred p).repredictTok plain s = .error e) : e = .err := by
  change repredictTok p plain s = .error e at h
  unfold repredictTok at h
  split at h
  · cases h; rfl
  · split at h
    · split at h <;> cases h
      rfl
    · cases h; rfl

theorem predictTok_bounded (p : Params) (plain : Array Nat) (s : PState Chain) (hp : PendBounded s.pending) :
    PTokBounded (predictTok p plain s).1 ∧ PendBounded (predictTok p plain s).2 := by
  have h := predictTok_ans p plain s
  generalize predictTok p plain s = r at h ⊢
  cases h with
  | edge => exact ⟨trivial, hp⟩
  | lit => exact ⟨trivial, pendBounded_none⟩
  | ref len dist hm =>
    refine ⟨?_, pendBounded_none⟩
    rcases hm with hm | ⟨_, hm⟩
    · exact hp len dist hm
    · exact matchToken_lt_bound hm
  | lazy len depth l2 d2 hm => exact ⟨trivial, pendBounded_some _ _ (matchToken_lt_bound hm)⟩

/-- token part of `PredBounded` for the executable predictor, for every parameter vector -/
theorem chains_pred_tok_bounded (p : Params) : PredTokBounded (Chains.pred p) where
  predict plain s hp := predictTok_bounded p plain s hp
  repredict _ _ _ _ _ h := matchToken_lt_bound (repredictTok_ok h).1

theorem chains_pred_len_bounded (p : Params) : PredLenBounded (Chains.pred p) where
  bitlen freq maxBits _ x hx := by
    simp only [Chains.pred] at hx
    split at hx
    · simp only [List.mem_map] at hx
      obtain ⟨y, _, rfl⟩ := hx
      have : y % 256 < 256 := Nat.mod_lt _ (by decide)
      unfold PRED_BOUND
      omega
    · simp at hx

/-- `PredBounded` for the executable predictor, every parameter vector -/
theorem chains_pred_bounded (p : Params) : PredBounded (Chains.pred p) where
  toPredTokBounded := chains_pred_tok_bounded p
  toPredLenBounded := chains_pred_len_bounded p

/-- `encStream_ops_wf` for the executable predictor: every operation the analysis emits is one the
    codec theorem covers -/
theorem chains_encStream_ops_wf (p : Params) (plain : Array Nat)
    (blocks : List Block) (pad : Nat) (hv : StreamValid plain blocks) (hpad : pad < 256)
    (hsize : plain.size < 2 ^ 31 - 1) (ops : List Op)
    (he : encStream (Chains.pred p) plain blocks pad = .ok ops) : ∀ o ∈ ops, o.WF :=
  encStream_ops_wf (Chains.pred p) (chains_pred_bounded p) plain blocks pad hv hpad hsize ops he

end Preflate.Proofs

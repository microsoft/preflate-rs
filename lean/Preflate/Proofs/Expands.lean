/- `readBlocks_valid` and the read of the final padding, put together for `parseBits`. No bound on the
input is needed: the plain-text limit of the reader already bounds the token count of a block. -/
import Preflate.Proofs.ExpandsTok
namespace Preflate.Proofs
open Preflate

/-- the blocks the parser returns are a valid expansion of the plaintext it returns, for EVERY
    input: the token-count condition of `ValidBlock` (`< 2^32 - 1`, what `predict_block` unwraps)
    follows from the plain-text limit -/
theorem parse_valid_unbounded (bs : Bits) (p : Parsed) (h : parseBits bs = .ok p) :
    StreamValid p.plain p.blocks ∧ p.eofPadding < 256 := by
  obtain ⟨bs1, h1, h2⟩ := parseBits_eq_ok.mp h
  obtain ⟨-, e2, e3, e4⟩ := readBlocks_valid h1
  have hpad := (readBits_ok h2).2
  have : 2 ^ (bs1.length % 8) ≤ 2 ^ 7 := Nat.pow_le_pow_right (by omega) (by omega)
  exact ⟨⟨e4, e3, e2.symm⟩, by omega⟩

set_option linter.unusedVariables false in
/-- `hbs` is not used: `parse_valid_unbounded` holds for every input -/
theorem parse_valid (bs : Bits) (hbs : bs.length < 2 ^ 32 - 1) (p : Parsed)
    (h : parseBits bs = .ok p) :
    StreamValid p.plain p.blocks ∧ p.eofPadding < 256 :=
  parse_valid_unbounded bs p h

end Preflate.Proofs

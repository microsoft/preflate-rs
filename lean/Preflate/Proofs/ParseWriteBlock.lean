/-
Completeness direction of C07, blocks: `readBlock` inverts `writeBlock`, `readBlocks` inverts
`writeBlocks`.
-/
import Preflate.Proofs.ParseWriteHeader
import Preflate.Proofs.ParseWriteTok
import Preflate.Proofs.PlainLimit
namespace Preflate.Proofs
open Preflate Preflate.Gen

theorem writeBlock_read {plain : Array Nat} {off pos : Nat} (last : Bool)
    {b : Block} (hv : ValidBlock plain pos b) (hc : BlockCoded off pos b) :
    ∃ w, writeBlock off last b = .ok w ∧ w.length = blockBits off b ∧
      ∀ cur, PrefixAt plain pos cur → ∀ rest, (off + w.length + rest.length) % 8 = 0 → ∃ cur',
        readBlock cur (w ++ rest) = .ok (last, b, cur', rest) ∧ PrefixAt plain (blockEnd pos b) cur' := by
  obtain ⟨l, hl, hl1⟩ : ∃ l, last = (l == 1) ∧
      ∀ bs, readBits 1 ((if last then true else false) :: bs) = .ok (l, bs) := by
    cases last
    · exact ⟨0, rfl, fun _ => rfl⟩
    · exact ⟨1, rfl, fun _ => rfl⟩
  cases b with
  | stored pad data =>
    obtain ⟨v1, v2, v3, v4⟩ := hv
    obtain ⟨c1, c2, c3⟩ := hc
    refine ⟨_, rfl, ?_, fun cur hpre rest hrest => ⟨pushAll cur data, ?_, ?_⟩⟩
    · simp only [List.length_append, List.length_cons, List.length_nil, padBits, length_bitsOfNat,
        length_flatMap_bytes, blockBits]
    · simp only [List.length_append, List.length_cons, List.length_nil, padBits, length_bitsOfNat,
        length_flatMap_bytes] at hrest
      simp only [padBits, Nat.mod_eq_of_lt v2, List.append_assoc, List.cons_append, List.nil_append]
      refine readBlock_eq_ok.mpr ⟨l, _, 0, _, hl1 _, rfl, hl, .stored ?_ (readBits_app (by omega) _)
        (readBits_app (v := 65535 - data.length) (by omega) _) (by omega)
        (by rw [hpre.1]; exact c3) (readBytes_app data rest c2)⟩
      rw [mod8_eq_padCount (off + 3) _ (by
        simp only [List.length_append, length_bitsOfNat, length_flatMap_bytes]; omega)]
      exact readBits_app c1 _
    · refine prefixAt_pushAll data hpre v3 fun i hi => ?_
      conv => lhs; rw [v4]
      simp [List.getD, hi]
  | fixed ts =>
    obtain ⟨v1, v2⟩ := hv
    obtain ⟨c1, c2⟩ := hc
    obtain ⟨w, hw, hlw, hr⟩ := writeTokens_read fixedLit_valid fixedDist_valid fixed_eob ts pos
      c1 v1 c2
    refine ⟨(if last then true else false) :: [true, false] ++ w, ?_, ?_,
      fun cur hpre rest _ => ?_⟩
    · simp only [writeBlock, hw, ok_bind]
    · simp only [List.length_append, List.length_cons, List.length_nil, hlw, blockBits]
    · obtain ⟨cur', h1, h2⟩ := hr cur hpre rest ((w ++ rest).length + 1)
        (by rw [List.length_append]; omega)
      exact ⟨cur', readBlock_eq_ok.mpr ⟨l, _, 1, w ++ rest, hl1 _, rfl, hl,
        .fixed h1⟩, h2⟩
  | dynamic h ts =>
    obtain ⟨v1, v2, v3⟩ := hv
    obtain ⟨c0, c1, c2⟩ := hc
    obtain ⟨wh, hwh, hlh, hrh⟩ := writeHeader_read v3 c0
    obtain ⟨w, hw, hlw, hr⟩ := writeTokens_read c1.lit_valid c1.dist_valid c1.eob ts pos
      c1.toks v1 c2
    refine ⟨(if last then true else false) :: [false, true] ++ wh ++ w, ?_, ?_,
      fun cur hpre rest _ => ?_⟩
    · simp only [writeBlock, hwh, litDistLengths_eq v3, hw, ok_bind]
    · simp only [List.length_append, List.length_cons, List.length_nil, hlw, hlh, blockBits]
    · obtain ⟨cur', h1, h2⟩ := hr cur hpre rest ((w ++ rest).length + 1)
        (by rw [List.length_append]; omega)
      rw [List.append_assoc]
      exact ⟨cur', readBlock_eq_ok.mpr ⟨l, _, 2, wh ++ (w ++ rest), hl1 _, rfl, hl,
        .dynamic (hrh _) (litDistLengths_eq v3) c1.lit_valid c1.dist_valid h1⟩, h2⟩

theorem writeBlocks_read {plain : Array Nat} (pad : Nat) : ∀ (blocks : List Block) (off pos : Nat),
    blocks ≠ [] → ValidBlocks plain pos blocks → BlocksCoded off pos blocks pad →
    ∃ w, writeBlocks off blocks = .ok w ∧ pad < 2 ^ padCount (off + w.length) ∧
      ∀ cur, PrefixAt plain pos cur → ∀ rest fuel, w.length < fuel →
        (off + w.length + rest.length) % 8 = 0 → ∃ cur',
        readBlocks fuel cur (w ++ rest) = .ok (blocks, cur', rest) ∧
        PrefixAt plain (blocksEnd pos blocks) cur' := by
  intro blocks
  induction blocks with
  | nil => intro _ _ h; exact absurd rfl h
  | cons b r ih =>
    intro off pos _ ⟨hv1, hv2⟩ ⟨hc1, hc2⟩
    cases r with
    | nil =>
      obtain ⟨w, hw, hlw, hr⟩ := writeBlock_read true hv1 hc1
      refine ⟨w, hw, by rw [hlw]; exact hc2, fun cur hpre rest fuel hf hal => ?_⟩
      obtain ⟨f, rfl⟩ := Nat.exists_eq_add_one_of_ne_zero (Nat.ne_zero_of_lt hf)
      obtain ⟨cur', h1, h2⟩ := hr cur hpre rest hal
      exact ⟨cur', readBlocks_last h1, h2⟩
    | cons b2 r2 =>
      obtain ⟨w, hw, hlw, hr⟩ := writeBlock_read false hv1 hc1
      rw [← hlw] at hc2
      obtain ⟨w2, hw2, hpad2, hr2⟩ := ih (off + w.length) (blockEnd pos b) (List.cons_ne_nil _ _) hv2 hc2
      refine ⟨w ++ w2, ?_, ?_, fun cur hpre rest fuel hf hal => ?_⟩
      · simp only [writeBlocks, hw, ok_bind, hw2]
      · rw [List.length_append, ← Nat.add_assoc]; exact hpad2
      · rw [List.length_append] at hf hal
        have hpos : 0 < w.length := by rw [hlw]; cases b <;> simp only [blockBits] <;> omega
        obtain ⟨f, rfl⟩ := Nat.exists_eq_add_one_of_ne_zero (Nat.ne_zero_of_lt hf)
        obtain ⟨cur1, h1, h2⟩ := hr cur hpre (w2 ++ rest) (by rw [List.length_append]; omega)
        obtain ⟨cur', h3, h4⟩ := hr2 cur1 h2 rest f (by omega) (by omega)
        rw [List.append_assoc]
        exact ⟨cur', readBlocks_more h1 h3, h4⟩

end Preflate.Proofs

/-
The VP8 bool coder of crate `cabac` (Model/VP8.lean) is lossless: reading the bytes produced by
`writeEvents` under the same sequence of contexts returns the bits that were written.

  * the 32-bit writer refines an exact interval coder over Nat (`WInv`, `putSplit_spec`; VP8Writer);
  * `finish` flushes exactly the low end of the last interval, with ≥ 31 padding bits (`finish_final`;
    VP8Finish), so the produced bytes lie in the interval of every intermediate writer state (`Final`);
  * the reader window is (code prefix − low end) aligned at bit 56 (`DInv`; VP8Reader), so `getSplit`
    takes the encoder's decision (`getSplit_spec`);
  * writer and reader thread identical context counts: `InStep out evs r cs` says the reader `r` with
    counts `cs` stands in `out` where a writer stood before coding `evs` and finishing. A fresh reader
    over `writeEvents evs` is in step (`inStep_new`), each `get` / `get_bypass` returns the next decision
    and stays in step; `vp8_lossless` and the byte source of Proofs/DecodeBytesRel.lean both rest on this.
-/
import Preflate.Proofs.VP8Reader
import Preflate.Proofs.Codec
namespace Preflate.Proofs
open Preflate Preflate.VP8

/-- the step function folded by `writeEvents` -/
def stepW (wc : Writer × Array Nat) (e : Ev) : Writer × Array Nat :=
  match e.ctx with
  | none => (wc.1.putBypass e.bit, wc.2)
  | some c =>
      let i := ctxIndex c
      let (w, n) := wc.1.put e.bit (wc.2.getD i 0x101)
      (w, wc.2.set! i n)

theorem stepW_some (w : Writer) (cs : Array Nat) (c : CtxId) (bit : Bool) :
    stepW (w, cs) ⟨some c, bit⟩ =
      ((w.put bit (cs.getD (ctxIndex c) 0x101)).1, cs.set! (ctxIndex c) (w.put bit (cs.getD (ctxIndex c) 0x101)).2) := rfl

theorem stepW_none (w : Writer) (cs : Array Nat) (bit : Bool) :
    stepW (w, cs) ⟨none, bit⟩ = (w.putBypass bit, cs) := rfl

/-- the step function folded by `readBits` -/
def stepR (st : Reader × Array Nat × Array Bool) (c : Option CtxId) : Reader × Array Nat × Array Bool :=
  let (r, cs, out) := st
  match c with
  | none => let (b, r) := r.getBypass; (r, cs, out.push b)
  | some c =>
      let i := ctxIndex c
      let (b, r, n) := r.get (cs.getD i 0x101)
      (r, cs.set! i n, out.push b)

theorem writeEvents_eq (evs : List Ev) :
    writeEvents evs = (evs.foldl stepW (Writer.new, freshContexts)).1.finish := rfl

theorem readBits_eq (bytes : Array UInt8) (ctxs : List (Option CtxId)) :
    readBits bytes ctxs = (ctxs.foldl stepR (Reader.new bytes, freshContexts, #[])).2.2.toList := by
  unfold readBits
  unfold stepR
  generalize List.foldl _ (Reader.new bytes, freshContexts, #[]) ctxs = p
  obtain ⟨a, b, c⟩ := p
  rfl

theorem put_bounds (w : Writer) (counts : Nat) (hw : WInv w) :
    0 < 1 + (((w.range - 1) * probability counts) >>> 8) ∧
    1 + (((w.range - 1) * probability counts) >>> 8) < w.range :=
  split_bounds w.range (probability counts) hw.r_lo (probability_lt _)

theorem stepW_split (w : Writer) (cs : Array Nat) (e : Ev) (hw : WInv w) :
    ∃ s, (0 < s ∧ s < w.range) ∧ (stepW (w, cs) e).1 = w.putSplit e.bit s := by
  unfold stepW
  cases e.ctx with
  | none => exact ⟨_, bypass_bounds w.range hw.r_lo, rfl⟩
  | some c => exact ⟨_, put_bounds w _ hw, rfl⟩

theorem stepW_inv (w : Writer) (cs : Array Nat) (e : Ev) (hw : WInv w) : WInv (stepW (w, cs) e).1 := by
  obtain ⟨s, hs, he⟩ := stepW_split w cs e hw
  exact he ▸ (putSplit_spec w _ s hw hs).inv

theorem stepW_final_back (w : Writer) (cs : Array Nat) (e : Ev) (out : Array UInt8) (hw : WInv w)
    (hf : Final (stepW (w, cs) e).1 out) : Final w out := by
  obtain ⟨s, hs, he⟩ := stepW_split w cs e hw
  exact final_back w _ s out hw hs (he ▸ hf)

theorem final_of_fold (evs : List Ev) : ∀ (w : Writer) (cs : Array Nat), WInv w →
    Final w (evs.foldl stepW (w, cs)).1.finish := by
  induction evs with
  | nil => intro w cs hw; exact finish_final w hw
  | cons e evs ih => intro w cs hw; exact stepW_final_back w cs e _ hw (ih _ _ (stepW_inv w cs e hw))

theorem read_spec (r : Reader) (w : Writer) (out : Array UInt8) (b : Bool) (s : Nat)
    (hw : WInv w) (h : DInv r w out) (hs : 0 < s ∧ s < w.range) (hf : Final (w.putSplit b s) out) :
    (if r.count < 0 then r.fill else r).range = w.range ∧
    ∃ r', (if r.count < 0 then r.fill else r).getSplit s = (b, r') ∧ DInv r' (w.putSplit b s) out := by
  have hp : DInv (if r.count < 0 then r.fill else r) w out ∧
      0 ≤ (if r.count < 0 then r.fill else r).count := by
    by_cases hc : r.count < 0
    · rw [if_pos hc]; exact fill_spec r w out h (final_back w b s out hw hs hf).len
    · rw [if_neg hc]; exact ⟨h, Int.not_lt.1 hc⟩
  exact ⟨hp.1.rng, getSplit_spec _ w out b s hp.1 hp.2 hw hs hf⟩

theorem get_spec (r : Reader) (w : Writer) (out : Array UInt8) (b : Bool) (counts : Nat)
    (hw : WInv w) (h : DInv r w out) (hf : Final (w.put b counts).1 out) :
    ∃ r', r.get counts = (b, r', (w.put b counts).2) ∧ DInv r' (w.put b counts).1 out := by
  obtain ⟨e, r', g1, g2⟩ := read_spec r w out b _ hw h (put_bounds w counts hw) hf
  exact ⟨r', by simp only [Reader.get, Writer.put, e, g1], g2⟩

theorem getBypass_spec (r : Reader) (w : Writer) (out : Array UInt8) (b : Bool)
    (hw : WInv w) (h : DInv r w out) (hf : Final (w.putBypass b) out) :
    ∃ r', r.getBypass = (b, r') ∧ DInv r' (w.putBypass b) out := by
  obtain ⟨e, r', g1, g2⟩ := read_spec r w out b _ hw h (bypass_bounds w.range hw.r_lo) hf
  exact ⟨r', by simp only [Reader.getBypass, e, g1], g2⟩

/-- the reader `r` with context counts `cs` stands in `out` where a writer with the same counts stood
    before it coded `evs` and finished into `out` -/
def InStep (out : Array UInt8) (evs : List Ev) (r : Reader) (cs : Array Nat) : Prop :=
  ∃ w, WInv w ∧ DInv r w out ∧ (evs.foldl stepW (w, cs)).1.finish = out

variable {out : Array UInt8} {evs : List Ev} {r : Reader} {cs : Array Nat}

theorem InStep.get {c : CtxId} {bit : Bool} (h : InStep out (⟨some c, bit⟩ :: evs) r cs) :
    ∃ r' n, r.get (cs.getD (ctxIndex c) 0x101) = (bit, r', n) ∧ InStep out evs r' (cs.set! (ctxIndex c) n) := by
  obtain ⟨w, hw, hd, hout⟩ := h
  have hw' := stepW_inv w cs ⟨some c, bit⟩ hw
  obtain ⟨r', g1, g2⟩ := get_spec r w out bit _ hw hd (hout ▸ final_of_fold evs _ _ hw')
  exact ⟨r', _, g1, _, hw', g2, hout⟩

theorem InStep.getBypass {bit : Bool} (h : InStep out (⟨none, bit⟩ :: evs) r cs) :
    ∃ r', r.getBypass = (bit, r') ∧ InStep out evs r' cs := by
  obtain ⟨w, hw, hd, hout⟩ := h
  have hw' := stepW_inv w cs ⟨none, bit⟩ hw
  obtain ⟨r', g1, g2⟩ := getBypass_spec r w out bit hw hd (hout ▸ final_of_fold evs _ _ hw')
  exact ⟨r', g1, _, hw', g2, hout⟩

theorem InStep.readBits (h : InStep out evs r cs) (acc : Array Bool) :
    ((evs.map (·.ctx)).foldl stepR (r, cs, acc)).2.2.toList = acc.toList ++ evs.map (·.bit) := by
  induction evs generalizing r cs acc with
  | nil => exact (List.append_nil _).symm
  | cons e evs ih =>
    obtain ⟨c, bit⟩ := e
    rw [List.map_cons, List.foldl_cons, List.map_cons]
    cases c with
    | none =>
      obtain ⟨r', g, h'⟩ := h.getBypass
      simp only [stepR, g, ih h', Array.toList_push, List.append_assoc, List.singleton_append]
    | some c =>
      obtain ⟨r', n, g, h'⟩ := h.get
      simp only [stepR, g, ih h', Array.toList_push, List.append_assoc, List.singleton_append]

theorem winv_init : WInv ({} : Writer) := by
  refine ⟨by decide, by decide, by decide, by decide, by decide, ?_⟩
  simp [WV, WT, Wk, aval]

theorem dinv_init (out : Array UInt8) :
    DInv { value := 0, range := 255, count := -8, input := out, pos := 0 } ({} : Writer) out :=
  ⟨rfl, rfl, 64, rfl, by simp [WT, Wk], Nat.le_refl _, Nat.zero_le _, by simp [WV, Wk, aval, pref],
    Nat.dvd_zero _⟩

theorem winv_new : WInv Writer.new :=
  (putSplit_spec _ false _ winv_init (put_bounds _ 0x101 winv_init)).inv

/-- `new` on either side codes one `false` under a fresh context: a fresh reader over the bytes
    `writeEvents` produced stands where the fresh writer stood -/
theorem inStep_new (evs : List Ev) :
    InStep (writeEvents evs) evs (Reader.new (writeEvents evs)) freshContexts := by
  rw [writeEvents_eq]
  generalize hout : (evs.foldl stepW (Writer.new, freshContexts)).1.finish = out
  have hfn : Final Writer.new out := hout ▸ final_of_fold evs _ _ winv_new
  have hf0 := final_back _ false _ out winv_init (put_bounds _ 0x101 winv_init) hfn
  obtain ⟨r', g1, g2⟩ :=
    get_spec _ _ out false 0x101 winv_init (fill_spec _ _ out (dinv_init out) hf0.len).1 hfn
  have hnew : Reader.new out = r' := by simp only [Reader.new, g1]
  exact ⟨Writer.new, winv_new, hnew ▸ g2, hout⟩

theorem vp8_lossless (evs : List Ev) :
    VP8.readBits (VP8.writeEvents evs) (evs.map (·.ctx)) = evs.map (·.bit) := by
  rw [readBits_eq]
  exact (inStep_new evs).readBits #[]

theorem readEvents_writeEvents (evs : List Ev) :
    VP8.readEvents (VP8.writeEvents evs) (evs.map (·.ctx)) = evs := by
  rw [VP8.readEvents, vp8_lossless]
  induction evs with
  | nil => rfl
  | cons e evs ih => rw [List.map_cons, List.map_cons, List.zipWith_cons_cons, ih]

theorem bytes_roundtrip (ops : List Op) (hwf : ∀ o ∈ ops, o.WF) :
    ∃ evs bytes, encodeOps 0 ops = .ok evs ∧ encodeBytes ops = .ok bytes ∧
      VP8.readEvents bytes (evs.map (·.ctx)) = evs ∧
      decodeOps 0 (ops.map Op.kind) (VP8.readEvents bytes (evs.map (·.ctx))) = .ok (ops, 0, []) := by
  obtain ⟨evs, he, hd⟩ := decode_encode ops hwf []
  rw [List.append_nil] at hd
  have hr := readEvents_writeEvents evs
  exact ⟨evs, VP8.writeEvents evs, he, by rw [encodeBytes, he, ok_bind], hr, hr.symm ▸ hd⟩

end Preflate.Proofs

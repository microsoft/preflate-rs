/-
The generic reconstruction functions of Model/DecodeBytes.lean at the LIST instance `listSrc` ARE
the list decoders of Model/Params.lean and Model/Predict.lean (same result shape, so plain
equalities). Every theorem about `readParams`, `decTok`, …, `decStream`, `recompressStream`
therefore is a theorem about the generic code.
-/
import Preflate.Model.DecodeBytes
namespace Preflate.Proofs
open Preflate

variable {H : Type}

theorem listSrc_popValue : (listSrc).popValue = popValue := rfl
theorem listSrc_popMis : (listSrc).popMis = popMis := rfl
theorem listSrc_popCorr : (listSrc).popCorr = popCorr := rfl
theorem listSrc_blockFuel (ops : List Op) : (listSrc).blockFuel ops = ops.length + 1 := rfl

theorem readParamsS_list (ops : List Op) : readParamsS listSrc ops = readParams ops := rfl

theorem decIsEofS_list (plain : Array Nat) (s : PState H) (ops : List Op) :
    decIsEofS listSrc plain s ops = decIsEof plain s ops := rfl

section
-- both sides unfold to the same term; smart unfolding would keep the recursive decoders folded
set_option smartUnfolding false

theorem decTokS_list (P : Pred H) (plain : Array Nat) (s : PState H) (ops : List Op) :
    decTokS listSrc P plain s ops = decTok P plain s ops := rfl

theorem decToksS_list (P : Pred H) (plain : Array Nat) (bs fuel : Nat) (s : PState H) (ops : List Op) :
    decToksS listSrc P plain bs fuel s ops = decToks P plain bs fuel s ops := rfl

theorem decLdTreesS_list (fuel : Nat) (syms : List Nat) (prev : Option Nat) (ops : List Op) :
    decLdTreesS listSrc fuel syms prev ops = decLdTrees fuel syms prev ops := rfl

theorem decTcLengthsS_list (tc : List Nat) (n i : Nat) (acc : List Nat) (ops : List Op) :
    decTcLengthsS listSrc tc n i acc ops = decTcLengths tc n i acc ops := rfl

theorem decTreeS_list (P : Pred H) (freq : List Nat × List Nat) (ops : List Op) :
    decTreeS listSrc P freq ops = decTree P freq ops := rfl

theorem decBlockS_list (P : Pred H) (plain : Array Nat) (s : PState H) (ops : List Op) :
    decBlockS listSrc P plain s ops = decBlock P plain s ops := rfl

theorem decBlocksS_list (P : Pred H) (plain : Array Nat) (fuel : Nat) (s : PState H) (ops : List Op) :
    decBlocksS listSrc P plain fuel s ops = decBlocks P plain fuel s ops := rfl

theorem decStreamS_list (P : Pred H) (plain : Array Nat) (ops : List Op) :
    decStreamS listSrc P plain ops = decStream P plain ops := rfl

end

theorem recompressStream_eq (mk : Params → Pred H) (plain : Array Nat) (ops : List Op) :
    recompressStream mk plain ops = (do
      let (rp, rest) ← readParamsS listSrc ops
      let (blocks, pad, _) ← decStreamS listSrc (mk rp) plain rest
      writeStream blocks pad) := by
  simp only [recompressStream, readParamsS_list, decStreamS_list]

end Preflate.Proofs

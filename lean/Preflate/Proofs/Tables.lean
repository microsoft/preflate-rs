/-
Facts about the generated tables (Preflate.Gen). A table is a finite object: each fact is stated with
a bound on the code and decided by the kernel; the two tables indexed by length and by distance
(`LENGTH_CODE_TABLE`, `DIST_CODE_TABLE`) are checked as runs of equal codes, one run per code.
`TREE_CODE_ORDER_TABLE` is a permutation of 0..18 (`order_lt`, `order_inj`, `order_surj`).
-/
import Preflate.Model.Deflate
import Preflate.Proofs.Bits
namespace Preflate.Proofs
open Preflate Preflate.Gen

theorem order_length : TREE_CODE_ORDER_TABLE.length = 19 := by decide

theorem order_lt : ∀ i, i < 19 → TREE_CODE_ORDER_TABLE.getD i 0 < 19 := by
  decide +kernel

theorem order_inj : ∀ i, i < 19 → ∀ j, j < 19 →
    TREE_CODE_ORDER_TABLE.getD i 0 = TREE_CODE_ORDER_TABLE.getD j 0 → i = j := by
  decide +kernel

theorem order_surj : ∀ k, k < 19 → ∃ j, j < 19 ∧ TREE_CODE_ORDER_TABLE.getD j 0 = k := by
  decide +kernel

/-- `LENGTH_CODE_TABLE` is made of runs: from index `lengthBase c` on, `2 ^ lengthExtra c` entries
    hold `c` — 31 of them for code 27 (lengths 227 … 257), because length 258 has its own code 28 -/
def lengthRun (c : Nat) : Nat := if c = 27 then 31 else 2 ^ lengthExtra c

theorem lengthRun_all : ∀ c, c < 29 →
    (LENGTH_CODE_TABLE.drop (lengthBase c)).take (lengthRun c) = List.replicate (lengthRun c) c := by
  decide +kernel

/-- only codes 27 and 28 reach length 258 -/
theorem length_bound_by_code : ∀ c, c < 29 →
    lengthBase c + 2 ^ lengthExtra c ≤ if c < 27 then 255 else 256 := by
  decide +kernel

theorem length_bound (c : Nat) (hc : c < 29) : lengthBase c + 2 ^ lengthExtra c ≤ 256 := by
  have := length_bound_by_code c hc
  split at this <;> omega

theorem length_irregular {c ex : Nat} (hc : c < 29) (hex : ex < 2 ^ lengthExtra c)
    (h : 3 + lengthBase c + ex = 258 ∧ c ≠ 28) : c = 27 ∧ ex = 31 := by
  have := length_bound_by_code c hc
  have h27 : lengthBase 27 = 224 := rfl
  by_cases h' : c < 27
  · rw [if_pos h'] at this
    omega
  · obtain rfl : c = 27 := by omega
    omega

theorem length_regular {c ex : Nat} (hc : c < 29) (hex : ex < 2 ^ lengthExtra c)
    (h : ¬ (3 + lengthBase c + ex = 258 ∧ c ≠ 28)) :
    quantizeLength (3 + lengthBase c + ex) = .ok c := by
  have hrun : ex < lengthRun c := by
    unfold lengthRun
    split
    · have h27 : lengthBase 27 = 224 := rfl
      have e27 : lengthExtra 27 = 5 := rfl
      subst c
      rw [e27] at hex
      omega
    · exact hex
  have := congrArg (·[ex]?) (lengthRun_all c hc)
  simp only [List.getElem?_take, List.getElem?_drop, List.getElem?_replicate, hrun, if_true] at this
  rw [quantizeLength, if_neg (by simp only [MIN_MATCH]; omega)]
  have e : 3 + lengthBase c + ex - MIN_MATCH = lengthBase c + ex := by
    simp only [MIN_MATCH]
    omega
  rw [e]
  exact idx_ok_of_getElem? _ _ _ _ this

theorem lengthBase_succ : ∀ c, c < 27 → lengthBase (c + 1) = lengthBase c + 2 ^ lengthExtra c := by
  decide +kernel

theorem lengthExtra_len : LENGTH_EXTRA_TABLE.length = 29 := by decide
theorem lengthBase_len : LENGTH_BASE_TABLE.length = 29 := by decide
theorem distExtra_len : DIST_EXTRA_TABLE.length = 30 := by decide
theorem distBase_len : DIST_BASE_TABLE.length = 30 := by decide

def inDist (c m : Nat) : Prop := distBase c ≤ m ∧ m < distBase c + 2 ^ distExtra c

instance (c m : Nat) : Decidable (inDist c m) := by unfold inDist; infer_instance

/-- `DIST_CODE_TABLE` is made of runs too: a code below distance 257 holds the `2 ^ distExtra c`
    entries from `distBase c` on; a code above holds one entry per 128 distances, from
    `256 + distBase c / 128` on (`quantize_distance` shifts by 7 there) -/
def distRun (c : Nat) : Nat × Nat :=
  if distBase c < 256 then (distBase c, 2 ^ distExtra c)
  else (256 + distBase c / 128, 2 ^ distExtra c / 128)

theorem distRun_all : ∀ c, c < 30 →
    (DIST_CODE_TABLE.drop (distRun c).1).take (distRun c).2 = List.replicate (distRun c).2 c ∧
    if distBase c < 256 then distBase c + 2 ^ distExtra c ≤ 256
      else distBase c % 128 = 0 ∧ 2 ^ distExtra c % 128 = 0 := by
  decide +kernel

theorem distBase_succ : ∀ c, c < 29 → distBase (c + 1) = distBase c + 2 ^ distExtra c := by
  decide +kernel

theorem dist_bound : ∀ c, c < 30 → distBase c + 2 ^ distExtra c ≤ 32768 := by
  decide +kernel

theorem dist_quantize {c dx : Nat} (hc : c < 30) (hdx : dx < 2 ^ distExtra c) :
    quantizeDistance (1 + distBase c + dx) = .ok c := by
  obtain ⟨hrun, hshape⟩ := distRun_all c hc
  have e : 1 + distBase c + dx - 1 = distBase c + dx := by omega
  rw [quantizeDistance, if_neg (by omega), e]
  unfold distRun at hrun
  by_cases hlo : distBase c < 256
  · rw [if_pos hlo] at hrun hshape
    have := congrArg (·[dx]?) hrun
    simp only [List.getElem?_take, List.getElem?_drop, List.getElem?_replicate, hdx, if_true] at this
    rw [if_pos (by omega)]
    exact idx_ok_of_getElem? _ _ _ _ this
  · rw [if_neg hlo] at hrun hshape
    have hq : dx / 128 < 2 ^ distExtra c / 128 := by omega
    have := congrArg (·[dx / 128]?) hrun
    simp only [List.getElem?_take, List.getElem?_drop, List.getElem?_replicate, hq, if_true] at this
    have e' : (distBase c + dx) >>> 7 = distBase c / 128 + dx / 128 := by
      rw [Nat.shiftRight_eq_div_pow]
      omega
    rw [if_neg (by omega), e', ← Nat.add_assoc]
    exact idx_ok_of_getElem? _ _ _ _ this

theorem fixedLit_valid : validLengths fixedLitLengths = true := by decide +kernel
theorem fixedDist_valid : validLengths fixedDistLengths = true := by decide +kernel
theorem fixed_eob : fixedLitLengths.getD 256 0 ≠ 0 := by decide +kernel

end Preflate.Proofs

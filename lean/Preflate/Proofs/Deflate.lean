/-
C07 (statements in Props/C07.lean): what the parser accepted is what the writer writes for the blocks
it returned. One lemma per parser function, `X_ok : X … bs = .ok (v, rest) → ∃ w, writeX v = .ok w ∧
bs = w ++ rest`, each by the inversion of `X` in ParserRuns.lean. First the writer on the forms of input
the reader produces (`writeCodeLengths_succ` … `writeToken_ref`), which the converse direction
(ParseWrite*.lean) uses as well; `writeToken_ref` is where the tables come in (`quantize_length` /
`quantize_distance` give back the codes that were read).
-/
import Preflate.Proofs.ParserRuns
import Preflate.Proofs.Tables
namespace Preflate.Proofs
open Preflate Preflate.Gen

variable {fuel n i read c ex dc dx : Nat} {acc cl : List Nat} {plain plain' : Array Nat}
  {bs rest : Bits} {ts : List Token} {items : List RleItem} {last : Bool} {b : Block}
  {blocks : List Block} {h : Header}

theorem writeCodeLengths_succ {v : Nat} {w : Bits} (hi : i < 19)
    (hcl : cl[TREE_CODE_ORDER_TABLE.getD i 0]? = some v) (hv : v < 2 ^ 3)
    (hw : writeCodeLengths cl n (i + 1) = .ok w) :
    writeCodeLengths cl (n + 1) i = .ok (bitsOfNat 3 v ++ w) := by
  simp only [writeCodeLengths, idx_ok _ _ _ (order_length ▸ hi), ok_bind,
    idx_ok_of_getElem? _ _ _ _ hcl, emit_ok _ hv, hw]

theorem writeRleItems_code {d : Nat} {w : Bits} (hd : d < cl.length)
    (hw : writeRleItems cl items = .ok w) :
    writeRleItems cl (⟨0, d⟩ :: items) = .ok (codeBits cl d ++ w) := by
  simp only [writeRleItems, if_true, hd, ok_bind, hw]

/-- a repeat code `k` (16, 17, 18) with `x` in its extra bits, as `readRleItems` returns it -/
theorem writeRleItems_rep {k x : Nat} {w : Bits} (hk : k ≠ 0) (hkl : k < cl.length)
    (hx : x < 2 ^ (treeCodeAdjust k).2) (hw : writeRleItems cl items = .ok w) :
    writeRleItems cl (⟨k, x + (treeCodeAdjust k).1⟩ :: items) =
      .ok (codeBits cl k ++ bitsOfNat (treeCodeAdjust k).2 x ++ w) := by
  simp only [writeRleItems, if_neg hk, hkl, not_true, if_false, ok_bind,
    Nat.not_lt.mpr (Nat.le_add_left _ x), Nat.add_sub_cancel, emit_ok _ hx, hw]

theorem writeHeader_eq {a b c : Nat} {w4 w6 : Bits} (ha : a < 2 ^ 5) (hb : b < 2 ^ 5)
    (hc : c < 2 ^ 4) (hw4 : writeCodeLengths cl (c + 4) 0 = .ok w4)
    (hw6 : writeRleItems cl items = .ok w6) :
    writeHeader ⟨a + 257, b + 1, c + 4, cl, items⟩ =
      .ok (bitsOfNat 5 a ++ bitsOfNat 5 b ++ bitsOfNat 4 c ++ w4 ++ w6) := by
  simp only [writeHeader, Nat.not_lt.mpr (Nat.le_add_left _ _), if_false, Nat.add_sub_cancel,
    emit_ok _ ha, emit_ok _ hb, emit_ok _ hc, ok_bind, hw4, hw6]

theorem writeSym_ok {l : List Nat} {s : Nat} (h : s < l.length) (site : String) :
    writeSym l s site = .ok (codeBits l s) := if_pos h

theorem writeTokens_cons {ll dl : List Nat} {t : Token} {a w : Bits}
    (ha : writeToken ll dl t = .ok a) (hw : writeTokens ll dl ts = .ok w) :
    writeTokens ll dl (t :: ts) = .ok (a ++ w) := by
  rw [writeTokens, ha, ok_bind, hw]
  rfl

/-- what `writeToken` writes for the reference with length code `c` (+ `ex`) and distance code `dc`
    (+ `dx`); extra bits are written only when the code has any -/
theorem writeToken_ref (ll dl : List Nat) (hc : c < 29)
    (hex : ex < 2 ^ lengthExtra c) (hs : 257 + c < ll.length) (hdc : dc < 30)
    (hdx : dx < 2 ^ distExtra dc) (hds : dc < dl.length) :
    writeToken ll dl (.ref (3 + lengthBase c + ex) (1 + distBase dc + dx)
      (3 + lengthBase c + ex == 258 && c != 28)) =
    .ok ((codeBits ll (257 + c) ++ bitsOfNat (lengthExtra c) ex) ++
         (codeBits dl dc ++ bitsOfNat (distExtra dc) dx)) := by
  have e1 : ∀ site, idx DIST_EXTRA_TABLE dc site = .ok (distExtra dc) :=
    fun _ => idx_ok _ _ _ (distExtra_len ▸ hdc)
  have e2 : ∀ site, idx DIST_BASE_TABLE dc site = .ok (distBase dc) :=
    fun _ => idx_ok _ _ _ (distBase_len ▸ hdc)
  have e3 : ∀ site, idx LENGTH_EXTRA_TABLE c site = .ok (lengthExtra c) :=
    fun _ => idx_ok _ _ _ (lengthExtra_len ▸ hc)
  have e4 : ∀ site, idx LENGTH_BASE_TABLE c site = .ok (lengthBase c) :=
    fun _ => idx_ok _ _ _ (lengthBase_len ▸ hc)
  -- a code without extra bits: the writer skips them, and `bitsOfNat 0 x` is empty
  have h0 : ∀ {n : Nat} (x : Nat) (s : Bits), ¬ n > 0 → s ++ bitsOfNat n x = s :=
    fun x s h => by rw [Nat.eq_zero_of_not_pos h, bitsOfNat, List.append_nil]
  unfold writeToken
  -- `quantize_distance` finds the distance code that was read
  simp only [dist_quantize hdc hdx, ok_bind, writeSym_ok hds, e1, e2,
    Nat.not_lt.mpr (Nat.le_add_right _ dx), if_false, Nat.sub_sub, Nat.add_sub_cancel_left,
    emit_ok _ hdx]
  by_cases hirr : (3 + lengthBase c + ex == 258 && c != 28) = true
  · rw [if_pos hirr]
    -- length 258 under a code other than 28 is code 27 with extra 31, which is what the writer emits
    obtain ⟨rfl, rfl⟩ := length_irregular hc hex (by simpa using hirr)
    rw [show LITLEN_CODE_COUNT - 2 = 257 + 27 from rfl, writeSym_ok hs, ok_bind,
      show emit 31 5 _ = .ok (bitsOfNat (lengthExtra 27) 31) from rfl, ok_bind]
    by_cases hnb : distExtra dc > 0
    · rw [if_pos hnb]
    · rw [if_neg hnb, h0 dx _ hnb]
  · rw [if_neg hirr]
    -- otherwise `quantize_length` finds the length code that was read
    simp only [length_regular hc hex (by simpa using hirr), ok_bind,
      writeSym_ok (show NONLEN_CODE_COUNT + c < ll.length from hs), e3, e4, MIN_MATCH,
      Nat.not_lt.mpr (Nat.le_add_right _ ex), if_false, Nat.add_sub_cancel_left, emit_ok _ hex]
    rw [show NONLEN_CODE_COUNT + c = 257 + c from rfl]
    by_cases hnb : distExtra dc > 0 <;> by_cases hnl : lengthExtra c > 0
    · rw [if_pos hnl, if_pos hnb]
    · rw [if_neg hnl, if_pos hnb, h0 ex _ hnl]
    · rw [if_pos hnl, if_neg hnb, h0 dx _ hnb]
    · rw [if_neg hnl, if_neg hnb, h0 dx _ hnb, h0 ex _ hnl]

theorem readCodeLengths_ok
    (h : readCodeLengths n i acc bs = .ok (cl, rest)) (hi : i + n ≤ 19) (hacc : acc.length = 19) :
    ∃ w, writeCodeLengths cl n i = .ok w ∧ bs = w ++ rest := by
  induction n generalizing i acc bs with
  | zero => cases h; exact ⟨[], rfl, rfl⟩
  | succ n ih =>
    obtain ⟨v, bs1, h1, h2⟩ := readCodeLengths_succ.mp h
    obtain ⟨w, hw, hbs⟩ := ih h2 (by omega) (by simpa using hacc)
    obtain ⟨hb1, hv⟩ := readBits_ok h1
    -- the entry written now is not overwritten later: the order table has no repetition
    have hcl : cl[TREE_CODE_ORDER_TABLE.getD i 0]? = some v := by
      rw [(readCodeLengths_frame h2).2 _ fun j hj1 hj2 hj => by
        have := order_inj j (by omega) i (by omega) hj; omega]
      exact List.getElem?_set_self (by have := order_lt i (by omega); omega)
    exact ⟨_, writeCodeLengths_succ (by omega) hcl hv hw, by rw [hb1, hbs, List.append_assoc]⟩

theorem readRleItems_ok (cl : List Nat) (total : Nat)
    (h : readRleItems (codeTable cl) total fuel read bs = .ok (items, rest)) :
    ∃ w, writeRleItems cl items = .ok w ∧ bs = w ++ rest := by
  refine readRleItems_induct ?_ ?_ ?_ h
  · exact fun bs => ⟨[], rfl, rfl⟩
  · intro _ bs w bs1 items rest _ h1 _ ⟨w', hw', e2⟩
    obtain ⟨hw, -, e1⟩ := decodeSym_eq_ok h1
    exact ⟨_, writeRleItems_code hw hw', by rw [e1, e2, List.append_assoc]⟩
  · intro _ bs w bs1 x bs2 items rest _ h1 _ _ h2 ⟨w', hw', e3⟩
    obtain ⟨hw, -, e1⟩ := decodeSym_eq_ok h1
    obtain ⟨e2, hx⟩ := readBits_ok h2
    exact ⟨_, writeRleItems_rep (by omega) hw hx hw',
      by rw [e1, e2, e3]; simp only [List.append_assoc]⟩

theorem readHeader_ok (hr : readHeader bs = .ok (h, rest)) :
    ∃ w, writeHeader h = .ok w ∧ bs = w ++ rest := by
  obtain ⟨a, bs1, b, bs2, c, bs3, cl, bs4, items, h1, h2, h3, h4, -, h6, rfl⟩ := readHeader_eq_ok.mp hr
  obtain ⟨e1, ha⟩ := readBits_ok h1
  obtain ⟨e2, hb⟩ := readBits_ok h2
  obtain ⟨e3, hc⟩ := readBits_ok h3
  obtain ⟨w4, hw4, e4⟩ := readCodeLengths_ok h4 (by omega) (by simp)
  obtain ⟨w6, hw6, e6⟩ := readRleItems_ok _ _ h6
  exact ⟨_, writeHeader_eq ha hb hc hw4 hw6,
    by rw [e1, e2, e3, e4, e6]; simp only [List.append_assoc]⟩

theorem decodeTokens_ok (ll dl : List Nat)
    (h : decodeTokens (codeTable ll) (codeTable dl) fuel plain bs = .ok (ts, plain', rest)) :
    ∃ w, writeTokens ll dl ts = .ok w ∧ bs = w ++ rest := by
  refine decodeTokens_induct ?_ ?_ ?_ h
  · intro _ plain bs rest _ h1
    obtain ⟨hsym, -, e1⟩ := decodeSym_eq_ok h1
    exact ⟨_, writeSym_ok hsym _, e1⟩
  · intro _ plain bs sym bs1 ts plain' rest _ h1 _ ⟨w, hw, e2⟩
    obtain ⟨hsym, -, e1⟩ := decodeSym_eq_ok h1
    exact ⟨_, writeTokens_cons (writeSym_ok hsym _) hw, by rw [e1, e2, List.append_assoc]⟩
  · intro _ plain bs lc bs1 ex bs2 dc bs3 dx bs4 ts plain' rest _ h1 hlc h2 h3 hdc h4 _ ⟨w, hw, e5⟩
    obtain ⟨hsym, -, e1⟩ := decodeSym_eq_ok h1
    obtain ⟨e2, hex⟩ := readBits_ok h2
    obtain ⟨hdl, -, e3⟩ := decodeSym_eq_ok h3
    obtain ⟨e4, hdx⟩ := readBits_ok h4
    exact ⟨_, writeTokens_cons (writeToken_ref ll dl hlc hex hsym hdc hdx hdl) hw,
      by rw [e1, e2, e3, e4, e5]; simp only [List.append_assoc]⟩

theorem readBlock_ok (off : Nat) (hoff : (off + bs.length) % 8 = 0)
    (h : readBlock plain bs = .ok (last, b, plain', rest)) :
    ∃ w, writeBlock off last b = .ok w ∧ bs = w ++ rest := by
  obtain ⟨l, bs1, mode, bs2, h1, h2, rfl, hb⟩ := readBlock_eq_ok.mp h
  obtain ⟨e1, hl⟩ := readBits_ok h1
  obtain ⟨e2, -⟩ := readBits_ok h2
  rw [bitsOfNat_one hl] at e1
  cases hb with
  | @stored pad len ilen _ _ _ _ data h3 h4 h5 hsum _ h6 =>
    have hlen : (off + 3 + bs2.length) % 8 = 0 := by
      have := readBits_len h1
      have := readBits_len h2
      omega
    rw [mod8_eq_padCount _ _ hlen] at h3
    obtain ⟨e3, -⟩ := readBits_ok h3
    obtain ⟨e4, hlen16⟩ := readBits_ok h4
    obtain ⟨e5, -⟩ := readBits_ok h5
    obtain ⟨e6, hdl⟩ := readBytes_ok h6
    have a1 : data.length % 65536 = len := by omega
    have a2 : 65535 - len = ilen := by omega
    refine ⟨_, rfl, ?_⟩
    rw [e1, e2, e3, e4, e5, e6, a1, a2]
    simp only [List.append_assoc]
    rfl
  | fixed h3 =>
    obtain ⟨w, hw, e3⟩ := decodeTokens_ok _ _ h3
    refine ⟨_, by simp only [writeBlock, hw, ok_bind]; rfl, ?_⟩
    rw [e1, e2, e3]
    rfl
  | dynamic h3 h4 _ _ h5 =>
    obtain ⟨w3, hw3, e3⟩ := readHeader_ok h3
    obtain ⟨w, hw, e4⟩ := decodeTokens_ok _ _ h5
    refine ⟨_, by simp only [writeBlock, hw3, h4, hw, ok_bind]; rfl, ?_⟩
    rw [e1, e2, e3, e4]
    simp only [List.append_assoc]
    rfl

theorem readBlocks_ok (off : Nat) (hoff : (off + bs.length) % 8 = 0)
    (h : readBlocks fuel plain bs = .ok (blocks, plain', rest)) :
    ∃ w, writeBlocks off blocks = .ok w ∧ bs = w ++ rest ∧ blocks ≠ [] := by
  refine readBlocks_induct (motive := fun _ _ bs blocks _ rest => ∀ off, (off + bs.length) % 8 = 0 →
    ∃ w, writeBlocks off blocks = .ok w ∧ bs = w ++ rest ∧ blocks ≠ []) ?_ ?_ h off hoff
  · intro _ plain bs b plain' rest h1 off hoff
    obtain ⟨w1, hw1, e1⟩ := readBlock_ok off hoff h1
    exact ⟨w1, hw1, e1, List.cons_ne_nil _ _⟩
  · intro _ plain bs b plain1 bs1 r plain' rest h1 ih off hoff
    obtain ⟨w1, hw1, e1⟩ := readBlock_ok off hoff h1
    have hoff2 : (off + w1.length + bs1.length) % 8 = 0 := by
      rw [e1, List.length_append] at hoff
      omega
    obtain ⟨w2, hw2, e2, hne⟩ := ih (off + w1.length) hoff2
    refine ⟨w1 ++ w2, ?_, by rw [e1, e2, List.append_assoc], List.cons_ne_nil _ _⟩
    obtain ⟨b2, r2, rfl⟩ := List.exists_cons_of_ne_nil hne
    simp only [writeBlocks, hw1, ok_bind, hw2]

theorem write_parse_bits (bs : Bits) (p : Parsed) (hlen : bs.length % 8 = 0)
    (h : parseBits bs = .ok p) :
    ∃ w, writeStreamBits p.blocks p.eofPadding = .ok w ∧ bs = w ++ p.rest ∧ w.length % 8 = 0 := by
  obtain ⟨bs1, h1, h2⟩ := parseBits_eq_ok.mp h
  obtain ⟨w, hw, e1, _⟩ := readBlocks_ok 0 (by omega) h1
  have hl : (w.length + bs1.length) % 8 = 0 := by
    rw [e1, List.length_append] at hlen
    exact hlen
  rw [mod8_eq_padCount _ _ hl] at h2
  refine ⟨w ++ padBits w.length p.eofPadding, ?_, ?_, ?_⟩
  · simp only [writeStreamBits, hw, ok_bind]
  · rw [e1, (readBits_ok h2).1, padBits, List.append_assoc]
  · simp only [List.length_append, padBits, length_bitsOfNat, padCount]
    omega

theorem write_parse (d : List UInt8) (p : Parsed) (h : parse d = .ok p) :
    writeStream p.blocks p.eofPadding = .ok (d.take (p.consumed d)) ∧ p.consumed d ≤ d.length := by
  have hl := length_bytesToBits d
  obtain ⟨w, hw, e, hw8⟩ := write_parse_bits (bytesToBits d) p (by omega) h
  have hlen := congrArg List.length e
  simp only [List.length_append] at hlen
  have hc : p.consumed d = w.length / 8 := by
    unfold Parsed.consumed; omega
  refine ⟨?_, Nat.sub_le _ _⟩
  simp only [writeStream, hw, ok_bind, hc]
  rw [bitsToBytes_prefix (w.length / 8) d w p.rest e (by omega)]

theorem parse_rest_aligned {d : List UInt8} {p : Parsed} (h : parse d = .ok p) :
    p.rest.length % 8 = 0 := by
  have hl := length_bytesToBits d
  obtain ⟨w, _, e, hw8⟩ := write_parse_bits (bytesToBits d) p (by omega) h
  have := congrArg List.length e
  simp only [List.length_append] at this
  omega

end Preflate.Proofs

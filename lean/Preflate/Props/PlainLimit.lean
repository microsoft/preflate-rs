/-
PlainLimit — the reader's plain-text size limit (deflate_reader.rs `check_plain_text_size`).

Plain-text positions are kept as `i32` everywhere in the analysed library (PreflateInput, hash
chains), so the reader refuses to continue once the plain text is longer than
`PLAIN_LIMIT = i32::MAX - 65535`; the check precedes every literal/length symbol (the end-of-block
symbol included) and the bytes of every stored block. The model (`decodeTokens`, `readBlock` in
Model/Deflate.lean) has the same check in the same places. Proved here, for EVERY byte string the
parser accepts: the plain text has at most `2^31 - 1` bytes, and every block has at most
`PLAIN_LIMIT` (so fewer than `2^31 - 1`) tokens, which is the hypothesis `TokenCountsSmall` of the
codec bound (Model/PredBounded.lean). The plain-text bound is not strict
(`plain_limit_reached`): a stored block of 65535 bytes starting at exactly `PLAIN_LIMIT` bytes is
accepted.

Statements only; the proofs are in Preflate/Proofs/PlainLimit.lean.
-/
import Preflate.Proofs.PlainLimit
import Preflate.Proofs.TestVectors
namespace Preflate

/-- the limit, as a number, and what one more step (at most 65535 bytes) can reach -/
theorem plain_limit_value : PLAIN_LIMIT = 2147418112 ∧ PLAIN_LIMIT + 65535 = 2 ^ 31 - 1 :=
  ⟨Proofs.plain_limit_val, Proofs.plain_limit_i32⟩

/-- the plain text of an accepted stream fits an `i32` -/
theorem parse_plain_lt (d : List UInt8) (p : Parsed) (h : parse d = .ok p) :
    p.plain.size ≤ 2147483647 :=
  Proofs.parse_plain_lt d p h

/-- the same bound in terms of the limit (tightest: see `plain_limit_reached`) -/
theorem parse_plain_le_limit (d : List UInt8) (p : Parsed) (h : parse d = .ok p) :
    p.plain.size ≤ PLAIN_LIMIT + 65535 :=
  Proofs.parse_plain_le_limit d p h

/-- one block, from any starting plain text: a Huffman block ends at no more than `PLAIN_LIMIT`
    bytes, a stored block at no more than `PLAIN_LIMIT + 65535`; at most `PLAIN_LIMIT` tokens -/
theorem readBlock_limit (plain : Array Nat) (bs : Bits) (last : Bool) (b : Block) (plain' : Array Nat)
    (rest : Bits) (h : readBlock plain bs = .ok (last, b, plain', rest)) :
    plain'.size ≤ PLAIN_LIMIT + 65535 ∧ (blockTokens b).length ≤ PLAIN_LIMIT ∧
      ((∀ pad data, b ≠ .stored pad data) → plain'.size ≤ PLAIN_LIMIT) :=
  Proofs.readBlock_limit h

/-- every block of an accepted stream has at most `PLAIN_LIMIT` tokens (each token adds at least
    one byte, and the check precedes each token and the end-of-block symbol) -/
theorem parse_tokens_le_limit (d : List UInt8) (p : Parsed) (h : parse d = .ok p) :
    ∀ b ∈ p.blocks, (blockTokens b).length ≤ PLAIN_LIMIT :=
  Proofs.parse_tokens_le_limit d p h

/-- … hence fewer than `2^31 - 1` -/
theorem parse_tokens_lt (d : List UInt8) (p : Parsed) (h : parse d = .ok p) :
    ∀ b ∈ p.blocks, (blockTokens b).length < 2 ^ 31 - 1 :=
  Proofs.parse_tokens_lt d p h

/-- the token-count hypothesis of the codec bound holds for whatever the parser accepts -/
theorem parse_tokenCountsSmall (d : List UInt8) (p : Parsed) (h : parse d = .ok p) :
    TokenCountsSmall p.blocks :=
  Proofs.parse_tokenCountsSmall d p h

/-- what the parser returns is a valid expansion of its plain text, with NO hypothesis on the input
    size (`ValidBlock` asks for fewer than `2^32 - 1` tokens, which the limit on the plain text gives) -/
theorem parse_valid_unbounded (bs : Bits) (p : Parsed) (h : parseBits bs = .ok p) :
    StreamValid p.plain p.blocks ∧ p.eofPadding < 256 :=
  Proofs.parse_valid_unbounded bs p h

/-- the bound `2^31 - 1` is attained by one step: from a plain text of exactly `PLAIN_LIMIT` bytes
    a stored block of 65535 bytes is accepted and leaves exactly `2^31 - 1` bytes. (A whole stream
    reaching it is more than 2 GiB long, so this is stated for one block.) -/
theorem plain_limit_reached (plain : Array Nat) (hs : plain.size = PLAIN_LIMIT) :
    ∃ bs b plain', readBlock plain bs = .ok (true, b, plain', []) ∧ plain'.size = 2147483647 :=
  Proofs.readBlock_limit_reached plain hs

/-- Non-vacuity: accepted streams (a fixed block; a stored block) — the check does not reject
    small inputs -/
example : (parse [0x4b, 0x04, 0x00]).toBool = true := Proofs.parse_fixed_a
example : (parse [0x01, 0x01, 0x00, 0xfe, 0xff, 0x61]).toBool = true := by decide +kernel

end Preflate

/-
C03 — Recovered plaintext and consumed length agree with a reference inflater.

zlib is C code outside Lean. The Lean side contains `Spec.inflate` (Model/Spec.lean), a
transcription of RFC 1951 §3.2 written without the repository's tables. Proved here: the model
parser over the tables REGENERATED from preflate_constants.rs / huffman_encoding.rs is the same
function as the RFC-table transcription — for every code, not for sampled streams. The harness
compares, on every run, the implementation, zlib's inflate and `Spec.inflate` (through the model
driver) on the same streams. Chain: zlib ≈ Spec (differential) = model (theorem) ≈ code
(correspondence).
-/
import Preflate.Proofs.SpecEq
import Preflate.Proofs.HuffTree
namespace Preflate

/-- every length code: base and extra bits equal the RFC 1951 §3.2.5 closed forms -/
theorem length_tables_are_rfc :
    (List.range 29).all (fun c => lengthBase c == Spec.lengthBase c && lengthExtra c == Spec.lengthExtra c) = true ∧
    Gen.LENGTH_BASE_TABLE.length = 29 ∧ Gen.LENGTH_EXTRA_TABLE.length = 29 ∧
    Gen.LEN_CODE_COUNT = 29 ∧ Gen.NONLEN_CODE_COUNT = 257 ∧ Gen.MIN_MATCH = 3 := by
  decide +kernel

/-- every distance code -/
theorem dist_tables_are_rfc :
    (List.range 30).all (fun c => distBase c == Spec.distBase c && distExtra c == Spec.distExtra c) = true ∧
    Gen.DIST_BASE_TABLE.length = 30 ∧ Gen.DIST_EXTRA_TABLE.length = 30 ∧ Gen.DIST_CODE_COUNT = 30 := by
  decide +kernel

/-- the fixed Huffman code is the RFC's (§3.2.6), in the source (`FIXED_LIT_SHAPE`) and in the model -/
theorem fixed_code_is_rfc :
    fixedLitLengths = Spec.fixedLitLengths ∧ fixedDistLengths = Spec.fixedDistLengths ∧
    Gen.FIXED_LIT_SHAPE = [288, 8, 144, 255, 9, 256, 279, 7] ∧ Gen.FIXED_DIST_WIDTH = 5 ∧
    Gen.FIXED_DIST_COUNT = 32 := by
  decide +kernel

/-- the code length order is the RFC's (§3.2.7); header field widths and offsets; block modes -/
theorem code_order_is_rfc :
    Gen.TREE_CODE_ORDER_TABLE = Spec.codeLengthOrder ∧
    Gen.HEADER_FIELDS = [(5, 257), (5, 1), (4, 4)] ∧ Gen.CODE_LENGTH_BITS = 3 ∧
    Gen.TREE_CODE_ADJUST = [(3, 2), (3, 3), (11, 7)] ∧ Gen.TREE_CODE_VALUES = [0, 16, 17, 18] ∧
    Gen.BLOCK_MODE_NAMES = ["Stored", "StaticHuff", "DynamicHuff"] ∧ Gen.BLOCK_MODE_VALUES = [0, 1, 2] ∧
    Gen.STORED_NLEN_MASK = 65535 := by
  decide +kernel

/-- the model parser IS the RFC-table inflater -/
theorem parse_eq_spec (bs : Bits) : parseBits bs = Spec.parseBits bs :=
  Proofs.parseBits_eq_spec bs

/-- whenever both accept, plaintext and consumed length agree (they agree on everything) -/
theorem parse_agrees_spec (d : List UInt8) (p : Parsed) (pl : Array Nat) (n : Nat)
    (h : parse d = .ok p) (hs : Spec.inflate d = some (pl, n)) :
    p.plain = pl ∧ p.consumed d = n := by
  unfold parse at h
  unfold Spec.inflate at hs
  rw [← parse_eq_spec, h] at hs
  simp only [Option.some.injEq, Prod.mk.injEq] at hs
  exact ⟨hs.1, by unfold Parsed.consumed; exact hs.2⟩

/-- the array-encoded Huffman tree of huffman_helper.rs decodes exactly what canonical-code matching
    (the decoder used by the model parser and by `Spec.inflate`) decodes, for every complete length
    vector and every input -/
theorem decodeSymTree_eq (l : List Nat) (h : validLengths l = true) (bs : Bits) :
    ∃ t, buildTree l = .ok t ∧ decodeSymTree t bs = decodeSym (codeTable l) bs :=
  Proofs.decodeSymTree_eq l h bs

end Preflate

/-
C10 — The correction codec is lossless for every operation sequence.

Model: Preflate/Model/Codec.lean (encoder/decoder of cabac_codec.rs down to the sequence of
context-coded and bypass bits). Statements only; lemmas are in Preflate/Proofs/Codec.lean and
Preflate/Proofs/VP8.lean.
-/
import Preflate.Proofs.Codec
import Preflate.Proofs.VP8
import Preflate.Gen.Consts
namespace Preflate

/-- Any sequence of well-formed operations (widths 1..16 with fitting values, misprediction flags,
    corrections below 2^31, in any context and any order) encodes without tripping the
    `1 << bit_length` overflow, and decoding the emitted decisions — followed by anything — with
    the same sequence of operation kinds returns exactly the operations, consumes exactly the
    emitted decisions, and leaves no pending default run. Because `getBit` fails on a context
    mismatch, success also means the decoder asked for the same context at every step. -/
theorem decode_encode (ops : List Op) (hwf : ∀ o ∈ ops, o.WF) (rest : List Ev) :
    ∃ evs, encodeOps 0 ops = .ok evs ∧
      decodeOps 0 (ops.map Op.kind) (evs ++ rest) = .ok (ops, 0, rest) :=
  Proofs.decode_encode ops hwf rest

/-- The bool coder (crate cabac 0.6.0 `VP8Writer` / `VP8Reader`, transcribed in Model/VP8.lean and
    compared byte for byte with the crate on every run) is lossless: whatever sequence of binary
    decisions (adaptive contexts and bypass bits, in any order) is written, reading the produced bytes
    back under the same context sequence returns the same bits. No bound on the number of decisions:
    the 32-bit `low`, the carry propagation through 0xFF runs, the 64-bit reader window and the
    padding / trailing-byte rule of `finish` are all inside. -/
theorem vp8_lossless (evs : List Ev) :
    VP8.readBits (VP8.writeEvents evs) (evs.map (·.ctx)) = evs.map (·.bit) :=
  Proofs.vp8_lossless evs

/-- BYTE LEVEL: any sequence of well-formed operations, once encoded to bytes and finished, decodes
    to the same sequence when read back with the same sequence of operation kinds. The decoder's
    demands are modelled by check-and-fail (`getBit` fails when the context it asks for is not the one
    the next decision was written under): `decode_encode` shows no check fails, so a demand-driven
    decoder asks exactly the encoder's context sequence, under which `vp8_lossless` returns the
    encoder's bits. -/
theorem bytes_roundtrip (ops : List Op) (hwf : ∀ o ∈ ops, o.WF) :
    ∃ evs bytes, encodeOps 0 ops = .ok evs ∧ encodeBytes ops = .ok bytes ∧
      VP8.readEvents bytes (evs.map (·.ctx)) = evs ∧
      decodeOps 0 (ops.map Op.kind) (VP8.readEvents bytes (evs.map (·.ctx))) = .ok (ops, 0, []) :=
  Proofs.bytes_roundtrip ops hwf

/-- The encoder's pending default run never exceeds one operation. -/
theorem default_count_le_one (c : Nat) (op : Op) (evs : List Ev) (c' : Nat)
    (h : encodeOp c op = .ok (evs, c')) : c' ≤ 1 :=
  Proofs.default_count_le_one c op evs c' h

/-- The context enums and array sizes the model hard-codes are the ones in the source now. -/
theorem contexts_match_source :
    Gen.MISPREDICTION_VALUES.getLast? = some 7 ∧ Gen.MISPREDICTION_NAMES.getLast? = some "MAX" ∧
    Gen.CORRECTION_VALUES.getLast? = some 10 ∧ Gen.CORRECTION_NAMES.getLast? = some "MAX" ∧
    Gen.MISPREDICTION_VALUES = List.range 8 ∧ Gen.CORRECTION_VALUES = List.range 11 ∧
    Gen.CODEC_CONTEXT_SIZES = [famSize 0, famSize 1, famSize 2, famSize 3] := by
  decide

/-- Non-vacuity: a mixed sequence meets the hypothesis and round-trips. -/
def sampleOps : List Op :=
  [Op.mis 1 false, .corr 3 0, .value 8 200, .corr 5 100000, .mis 3 true, .corr 0 0]

def sampleRoundTrip : Bool :=
  match encodeOps 0 sampleOps with
  | .ok evs =>
      match decodeOps 0 (sampleOps.map Op.kind) evs with
      | .ok (r, c, rest) => r == sampleOps && c == 0 && rest.isEmpty
      | .error _ => false
  | .error _ => false

example : sampleRoundTrip = true ∧ (∀ o ∈ sampleOps, o.WF) := by decide +kernel

end Preflate

/-
C03, against an INDEPENDENT reading of the dynamic block header.

`Spec.inflate` (Model/Spec.lean) reuses the model's `litDistLengths` / `mkTable` in its dynamic branch, so
two deviations of the library from RFC 1951 / zlib are invisible to `parse_eq_spec`:

  1. code-length symbol 16 repeats the previous code length — the last length of the sequence so far,
     zeros included, and nothing before it is an error (the library repeats the last EXPLICIT length);
  2. zlib accepts a complete code, OR a single symbol of length 1 (literal/length and distance codes),
     OR no distance symbol at all; the literal/length code must give 256 a code (the library demands
     complete codes everywhere).

`SpecRFC.inflate` (Model/SpecRFC.lean) reads the header by those two rules. The readings DO differ —
there are streams the library accepts and `SpecRFC.inflate` rejects, and vice versa (examples below) —
but they can never both accept with different results: `parse_agrees_rfc`.

Why (Proofs/SpecRFC*.lean): a 16 makes ≥ 3 copies (`readHeader_rep`). Where the readings differ, the RFC
reading has 0 and the library's a copy of an explicit length found EARLIER (`Rel.src`), and the
neighbouring copy differs too (`Rel.adj`). The library's halves are complete (Kraft sum 1,
`kraft_of_valid`). If zlib's literal/length half is complete, it lost nothing, so it is the library's
(`eq_of_kraft_eq`); then a distance half that differs can only be zlib's empty or single-symbol case, and
in the latter the extra 1-bit codes would come in pairs inside the distance half, which with the shared
1-bit symbol makes three codes of length 1 — impossible (`dist_tables`): so the shared symbol has the
code `0` in both and zlib's other codes are invalid. If zlib's literal/length half is the single
symbol, that symbol is 256, all the library's extra codes lie after it, 256 has the code `0` in both,
and the block is the single bit `0` on both sides (`tables_rel`).
-/
import Preflate.Proofs.SpecRFCPlain
import Preflate.Props.C03
namespace Preflate

/-- whenever the library's reader and the RFC/zlib reading both accept, they agree on EVERYTHING
    (blocks, padding, plaintext, unread rest) -/
theorem parseBits_agrees_rfc (bs : Bits) (p p' : Parsed) (h : parseBits bs = .ok p)
    (hs : SpecRFC.parseBits bs = .ok p') : p = p' :=
  Proofs.RFC.parseBits_agree bs p p' h hs

/-- whenever the library's reader and the RFC/zlib reading both accept, plaintext and consumed length agree -/
theorem parse_agrees_rfc (d : List UInt8) (p : Parsed) (pl : Array Nat) (n : Nat)
    (h : parse d = .ok p) (hs : SpecRFC.inflate d = some (pl, n)) : p.plain = pl ∧ p.consumed d = n := by
  unfold parse at h
  unfold SpecRFC.inflate at hs
  split at hs
  · rename_i p' hp'
    have := parseBits_agrees_rfc _ _ _ h hp'
    subst this
    simp only [Option.some.injEq, Prod.mk.injEq] at hs
    exact ⟨hs.1, by unfold Parsed.consumed; exact hs.2⟩
  · cases hs

/-- the run-length items of a dynamic block read the same under both readings (no leading repeat, no
    repeat after a zero run that would copy a pending non-zero explicit length) -/
abbrev PlainItems : Block → Prop := Proofs.RFC.PlainItems

/-- … and both of its codes are complete -/
abbrev PlainComplete : Block → Prop := Proofs.RFC.PlainComplete

/-- stored and fixed blocks (and invalid block types) are read by the same code, failures included -/
theorem specRFC_readBlock_eq_of_not_dynamic (plain : Array Nat) (bs : Bits)
    (hm : ∀ l bs1 m bs2, readBits 1 bs = .ok (l, bs1) → readBits 2 bs1 = .ok (m, bs2) → m ≠ 2) :
    SpecRFC.readBlock plain bs = Spec.readBlock plain bs := by
  rw [Proofs.RFC.rfc_readBlock_eq_of_mode plain bs hm, Proofs.spec_readBlock_eq]

/-- a stream `Spec` accepts, in which the items of every dynamic header read the same under both
    readings, is accepted by `SpecRFC` with the same parse -/
theorem specRFC_of_spec_plain (bs : Bits) (p : Parsed) (h : Spec.parseBits bs = .ok p)
    (hb : ∀ b ∈ p.blocks, PlainItems b) : SpecRFC.parseBits bs = .ok p :=
  Proofs.RFC.rfc_parseBits_of_ok bs p (by rw [parse_eq_spec]; exact h) hb

/-- a stream `SpecRFC` accepts, in which the items of every dynamic header read the same under both
    readings and both codes are complete, is accepted by `Spec` with the same parse -/
theorem spec_of_specRFC_plain (bs : Bits) (p : Parsed) (h : SpecRFC.parseBits bs = .ok p)
    (hb : ∀ b ∈ p.blocks, PlainComplete b) : Spec.parseBits bs = .ok p := by
  rw [← parse_eq_spec]; exact Proofs.RFC.parseBits_of_rfc_ok bs p h hb

/-- where the two readings of the header coincide (no repeat after a zero run, no leading repeat,
    complete codes) `SpecRFC.parseBits` is `Spec.parseBits` -/
theorem specRFC_eq_spec_of_plain_header (d : List UInt8) (p : Parsed)
    (hp : (Spec.parseBits (bytesToBits d) = .ok p ∧ ∀ b ∈ p.blocks, PlainItems b) ∨
          (SpecRFC.parseBits (bytesToBits d) = .ok p ∧ ∀ b ∈ p.blocks, PlainComplete b)) :
    SpecRFC.inflate d = Spec.inflate d := by
  have h : Spec.parseBits (bytesToBits d) = .ok p ∧ SpecRFC.parseBits (bytesToBits d) = .ok p := by
    rcases hp with ⟨h, hb⟩ | ⟨h, hb⟩
    · exact ⟨h, specRFC_of_spec_plain _ _ h hb⟩
    · exact ⟨spec_of_specRFC_plain _ _ h hb, h⟩
  unfold SpecRFC.inflate Spec.inflate
  rw [h.1, h.2]

/-- in particular: streams consisting only of stored and fixed blocks -/
theorem specRFC_eq_spec_of_no_dynamic (d : List UInt8) (p : Parsed)
    (hp : Spec.parseBits (bytesToBits d) = .ok p ∨ SpecRFC.parseBits (bytesToBits d) = .ok p)
    (hnd : ∀ b ∈ p.blocks, ∀ h ts, b ≠ .dynamic h ts) : SpecRFC.inflate d = Spec.inflate d := by
  have h1 : ∀ b ∈ p.blocks, PlainItems b := by
    intro b hb
    cases b with
    | dynamic h ts => exact absurd rfl (hnd _ hb h ts)
    | stored _ _ => trivial
    | fixed _ => trivial
  have h2 : ∀ b ∈ p.blocks, PlainComplete b := by
    intro b hb
    cases b with
    | dynamic h ts => exact absurd rfl (hnd _ hb h ts)
    | stored _ _ => trivial
    | fixed _ => trivial
  rcases hp with hp | hp
  · exact specRFC_eq_spec_of_plain_header d p (Or.inl ⟨hp, h1⟩)
  · exact specRFC_eq_spec_of_plain_header d p (Or.inr ⟨hp, h2⟩)

-- non-vacuity: the readings differ, and both hypotheses of `parse_agrees_rfc` are satisfiable

/-- what the library's reader returns: plaintext and consumed length -/
def parseResult (d : List UInt8) : Option (Array Nat × Nat) :=
  match parse d with
  | .ok p => some (p.plain, p.consumed d)
  | .error _ => none

/-- literal/length lengths {'a': 1, 256: 1}, distance lengths [1, 1]; data: 'a', end of block -/
def exBoth : List UInt8 := [5, 193, 129, 0, 0, 0, 0, 0, 144, 86, 255, 19, 16]

/-- literal/length lengths {0: 1, 1: 2, 256: 2}; distance items `2, 17(3), 16(3)`: the library reads
    [2,0,0,0,2,2,2] (complete), the RFC reads [2,0,0,0,0,0,0] (one symbol, of length 2: zlib answers
    "invalid distances set"); data: 0, 1, end of block -/
def exLibOnly : List UInt8 := [5, 198, 55, 1, 0, 0, 0, 128, 32, 236, 95, 90, 143, 161, 1]

/-- as `exBoth` with the distance lengths [1]: one distance code of length 1, incomplete -/
def exRfcOnly : List UInt8 := [5, 192, 129, 0, 0, 0, 0, 0, 144, 86, 255, 19, 8]

/-- literal/length lengths {0: 1, 1: 2, 256: 2}; distance items `17(3), 16(4)` after the end-of-block
    length 2: the library reads [0,0,0,2,2,2,2] (complete), the RFC reads seven zeros (zlib: no distance
    code, fine for a block without references); data: 0, 1, end of block. The readings differ, both
    accept, same result. -/
def exDiffer : List UInt8 := [5, 198, 55, 1, 0, 0, 0, 128, 32, 236, 95, 218, 99, 105]

/-- a dynamic block both accept -/
example : parseResult exBoth = some (#[97], 13) ∧ SpecRFC.inflate exBoth = some (#[97], 13) := by
  decide +kernel

/-- the library accepts, the RFC/zlib reading rejects (a 16 after a zero run makes extra symbols) -/
example : parseResult exLibOnly = some (#[0, 1], 15) ∧ SpecRFC.inflate exLibOnly = none := by
  decide +kernel

/-- the RFC/zlib reading accepts, the library rejects (single 1-bit distance code) -/
example : parseResult exRfcOnly = none ∧ SpecRFC.inflate exRfcOnly = some (#[97], 13) := by
  decide +kernel

/-- the two readings of the header differ, both accept, and — as proved — agree -/
example : parseResult exDiffer = some (#[0, 1], 14) ∧ SpecRFC.inflate exDiffer = some (#[0, 1], 14) := by
  decide +kernel

end Preflate

#print axioms Preflate.parseBits_agrees_rfc
#print axioms Preflate.specRFC_eq_spec_of_plain_header
#print axioms Preflate.specRFC_eq_spec_of_no_dynamic
#print axioms Preflate.parse_agrees_rfc

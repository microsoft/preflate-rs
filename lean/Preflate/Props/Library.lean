/-
The properties of the container level (C01, C06, C13) for the library model AS A WHOLE:
the abstract stream oracle of Model/Container.lean replaced by the concrete stream functions
(`libOracle`, Model/Library.lean: `decompressBytes Est.estimate Chains.pred` / `recompressBytes Chains.pred`,
the byte-level models of `decompress_deflate_stream` / `recompress_deflate_stream` with the modelled
parameter estimator and the executable predictor).

What was a hypothesis about the oracle in C01 / C06 is discharged here from the stream-level theorems:
* "the analysis does not panic" (C05Public `public_outcomes`, OpsWF + C10 `bytes_roundtrip` for the bool
  coder, C02Public `public_bytes_exact` for the reconstruction step)            → `library_no_panic`;
* "plaintext fits the u32 length field" (PlainLimit `parse_plain_lt`)            → `library_plain_size`.
What is LEFT as a hypothesis, once, in `library_round_trip`: the correction bytes of an accepted stream
fit the u32 length field of the chunk format (`hcorr`).

SIZE: files below 4 GiB (`2^32` bytes, the width of the container length fields); single candidates below
`2^61` bytes, the bound of the byte-level stream theorems (the model bounds the block loop of
`recompress_deflate_stream` by 2^64 iterations: `byteSrc`, Model/DecodeBytes.lean); the scanner only probes
candidates cut out of the file (`Proofs.Cand`), which is how the bound on the file carries over.
-/
import Preflate.Proofs.Library
import Preflate.Props.C01
import Preflate.Props.C06
import Preflate.Props.C13
namespace Preflate
open Proofs

/-- the scanner's acceptance test (analysis, reconstruction, comparison) with the concrete stream
    functions does not panic, on ANY list of numbers below 2^61 -/
theorem library_no_panic (d : Bytes) (m : String) (hd : d.length < 2 ^ 61) :
    libOracle.verified d ≠ .error (.panic m) :=
  Proofs.lib_no_panic d hd m

/-- … and does not exhaust a loop bound of the model -/
theorem library_no_fuel (d : Bytes) (hd : d.length < 2 ^ 61) :
    libOracle.verified d ≠ .error .fuel :=
  Proofs.lib_no_fuel d hd

/-- the plaintext of an accepted stream fits an `i32`, whatever the candidate -/
theorem library_plain_size (d : Bytes) (r : Res) (h : libOracle.verified d = .ok r) :
    r.plain.length < 2 ^ 32 :=
  Proofs.lib_plain_lt d r h

/-- on a byte candidate below 2^61 bytes the reconstruction check that `Oracle.verified` adds always
    passes: acceptance by the scanner = Ok from `decompress_deflate_stream` -/
theorem library_verified_is_analyze (d : Bytes) (hb : ∀ b ∈ d, b < 256) (hd : d.length < 2 ^ 61) :
    libOracle.verified d = libOracle.analyze d :=
  Proofs.lib_verified_bytes d hb hd

/-- **C01, concrete.** Every file of bytes below 4 GiB: `expand` returns Ok (no panic anywhere in
    scanner, header skippers, parse_idat, stream analysis, chunk writer) and `recreate` of its output
    returns exactly the file. Remaining hypothesis `hcorr`: corrections of every accepted candidate cut
    out of `f` (`Cand f d`: `d.length ≤ f.length` and every entry of `d` occurs in `f`) are below 2^32
    bytes. -/
theorem library_round_trip (crc : Bytes → Nat) (f : Bytes)
    (hb : ∀ b ∈ f, b < 256) (hf : f.length < 2 ^ 32)
    (hcorr : ∀ d r, Cand f d → libOracle.verified d = .ok r → r.corr.length < 2 ^ 32) :
    ∃ c, expand libOracle crc f = .ok c ∧ recreate libOracle crc c = .ok f :=
  Proofs.lib_round_trip crc f hb hf hcorr

/-- the generic form behind it: C01 with the oracle hypotheses restricted to candidates cut out of the
    file, for ANY oracle -/
theorem recreate_expand_on (o : Oracle) (crc : Bytes → Nat) (f : Bytes)
    (hb : ∀ b ∈ f, b < 256) (hf : f.length < 2 ^ 32)
    (hpanic : ∀ d m, Cand f d → o.verified d ≠ .error (.panic m))
    (hsize : ∀ d r, Cand f d → o.verified d = .ok r →
      r.plain.length < 2 ^ 32 ∧ r.corr.length < 2 ^ 32) :
    ∃ c, expand o crc f = .ok c ∧ recreate o crc c = .ok f :=
  Proofs.recreate_expand_on o crc f hb hf hpanic hsize

/-- **C06, concrete, zlib.** -/
theorem library_found_zlib (crc : Bytes → Nat) (pre suf s : Bytes) (h1 : Nat) (r : Res)
    (hh : h1 ∈ zlibSecond)
    (hb : ∀ b ∈ pre ++ zlibWrap h1 s ++ suf, b < 256)
    (hlen : (pre ++ zlibWrap h1 s ++ suf).length < 2 ^ 32)
    (hacc : libOracle.verified (s ++ suf) = .ok r) (hbig : r.plain.length > Gen.MIN_BLOCKSIZE)
    (hq : Quiet libOracle crc (pre ++ zlibWrap h1 s ++ suf) pre.length pre.length) :
    ∃ before prev after, prev ≤ pre.length ∧
      scan libOracle crc (pre ++ zlibWrap h1 s ++ suf) =
        .ok (before ++ [.literal (pre.length + 2 - prev), .deflate r] ++ after) :=
  found_at (lib_no_panic_asked crc hb hlen) hq (Nat.le_refl _) (zlib_at libOracle crc pre suf s h1 r hh hacc hbig)

/-- **C06, concrete, gzip.** -/
theorem library_found_gzip (crc : Bytes → Nat) (pre suf s : Bytes) (g : GzipFields) (r : Res)
    (hg : g.WF)
    (hb : ∀ b ∈ pre ++ gzipHeader g ++ s ++ suf, b < 256)
    (hlen : (pre ++ gzipHeader g ++ s ++ suf).length < 2 ^ 32)
    (hacc : libOracle.verified (s ++ suf) = .ok r) (hbig : r.plain.length > Gen.MIN_BLOCKSIZE)
    (hq : Quiet libOracle crc (pre ++ gzipHeader g ++ s ++ suf) pre.length pre.length) :
    ∃ before prev after, prev ≤ pre.length ∧
      scan libOracle crc (pre ++ gzipHeader g ++ s ++ suf) =
        .ok (before ++ [.literal (pre.length + (gzipHeader g).length - prev), .deflate r] ++ after) :=
  found_at (lib_no_panic_asked crc hb hlen) hq (Nat.le_refl _) (gzip_at libOracle crc pre suf s g r hg hacc hbig)

/-- **C06, concrete, ZIP.** -/
theorem library_found_zip (crc : Bytes → Nat) (pre suf s : Bytes) (z : ZipFields) (r : Res)
    (hn : z.name.length < 65536) (hx : z.extra.length < 65536)
    (hb : ∀ b ∈ pre ++ zipHeader z ++ s ++ suf, b < 256)
    (hlen : (pre ++ zipHeader z ++ s ++ suf).length < 2 ^ 32)
    (hacc : libOracle.verified (s ++ suf) = .ok r) (hbig : r.plain.length > Gen.MIN_BLOCKSIZE)
    (hq : Quiet libOracle crc (pre ++ zipHeader z ++ s ++ suf) pre.length pre.length) :
    ∃ before prev after, prev ≤ pre.length ∧
      scan libOracle crc (pre ++ zipHeader z ++ s ++ suf) =
        .ok (before ++ [.literal (pre.length + (zipHeader z).length - prev), .deflate r] ++ after) :=
  found_at (lib_no_panic_asked crc hb hlen) hq (Nat.le_refl _) (zip_at libOracle crc pre suf s z r hn hx hacc hbig)

/-- **C06, concrete, PNG IDAT.** -/
theorem library_found_idat (crc : Bytes → Nat) (pre suf s hdr adler : Bytes) (pieces : List Bytes) (r : Res)
    (hp : ∀ p ∈ pieces, p ≠ [] ∧ p.length < 2 ^ 32) (hcrc : ∀ x, crc x < 2 ^ 32)
    (hcat : pieces.flatten = hdr ++ s ++ adler) (hhdr : hdr.length = 2) (had : adler.length = 4)
    (hne : pieces ≠ [])
    (hb : ∀ b ∈ pre ++ idatWrap crc pieces ++ suf, b < 256)
    (hlen : (pre ++ idatWrap crc pieces ++ suf).length < 2 ^ 32)
    (hend : IdatEnd crc suf)
    (hacc : libOracle.verified s = .ok r) (hfull : r.size = s.length)
    (hbig : (idatWrap crc pieces).length > Gen.MIN_BLOCKSIZE)
    (hq : Quiet libOracle crc (pre ++ idatWrap crc pieces ++ suf) (pre.length + 4) pre.length) :
    ∃ before prev after c, prev ≤ pre.length ∧
      scan libOracle crc (pre ++ idatWrap crc pieces ++ suf) =
        .ok (before ++ [.literal (pre.length - prev), .idat c r] ++ after) := by
  obtain ⟨c, hc⟩ := idat_at libOracle crc pre suf s hdr adler pieces r hp hcrc hcat hhdr had hne hend hacc hfull hbig
  obtain ⟨before, prev, after, h1, h2⟩ := found_at (lib_no_panic_asked crc hb hlen) hq (Nat.le_add_right _ _) hc
  exact ⟨before, prev, after, c, h1, h2⟩

/-- the premise `hacc` of the four, at the stream level: a byte candidate below 2^61 bytes is accepted
    with result `r` iff the byte-level model of `decompress_deflate_stream` returns Ok with `r` -/
theorem library_accepts_iff (d : Bytes) (hb : ∀ b ∈ d, b < 256) (hd : d.length < 2 ^ 61) (r : Res) :
    libOracle.verified d = .ok r ↔
    ∃ plain bytes q, decompressBytes Est.estimate Chains.pred false (toU8 d) = .ok (plain, bytes, r.size, q) ∧
      r = ⟨plain.toList, ofU8 bytes.toList, r.size⟩ :=
  Proofs.lib_accepts_iff d hb hd r

/-- **C13, concrete**: fragmentation independence of the streaming reader -/
theorem library_frag_independent (crc : Bytes → Nat) (c f : Bytes)
    (hc : recreate libOracle crc c = .ok f) (rs ws : List IoEv) (hr : OnlyShort rs) (hw : OnlyShort ws) :
    ∃ s' k', recreateIO libOracle crc ⟨c, rs⟩ ⟨[], ws⟩ = (.ok (), s', k') ∧ k'.out = f :=
  Proofs.frag_independent libOracle crc c f hc rs ws hr hw

/-- **C13, concrete**: clean failure under any I/O error schedule -/
theorem library_error_clean (crc : Bytes → Nat) (c f : Bytes)
    (hc : recreate libOracle crc c = .ok f) (rs ws : List IoEv) (hrz : IoEv.zero ∉ rs) :
    (∀ m, (recreateIO libOracle crc ⟨c, rs⟩ ⟨[], ws⟩).1 ≠ .error (.panic m)) ∧
    (recreateIO libOracle crc ⟨c, rs⟩ ⟨[], ws⟩).1 ≠ .error .fuel ∧
    (recreateIO libOracle crc ⟨c, rs⟩ ⟨[], ws⟩).2.2.out <+: f ∧
    ((recreateIO libOracle crc ⟨c, rs⟩ ⟨[], ws⟩).1 = .ok () →
      (recreateIO libOracle crc ⟨c, rs⟩ ⟨[], ws⟩).2.2.out = f) :=
  Proofs.error_clean libOracle crc c f hc rs ws hrz

/-- **C01 + C13, concrete, end to end**: the container `expand` produces for a file below 4 GiB is
    read back to exactly the file under any fragmentation, and fails cleanly under any error schedule -/
theorem library_end_to_end (crc : Bytes → Nat) (f : Bytes)
    (hb : ∀ b ∈ f, b < 256) (hf : f.length < 2 ^ 32)
    (hcorr : ∀ d r, Cand f d → libOracle.verified d = .ok r → r.corr.length < 2 ^ 32) :
    ∃ c, expand libOracle crc f = .ok c ∧ recreate libOracle crc c = .ok f ∧
      (∀ rs ws, OnlyShort rs → OnlyShort ws →
        ∃ s' k', recreateIO libOracle crc ⟨c, rs⟩ ⟨[], ws⟩ = (.ok (), s', k') ∧ k'.out = f) ∧
      (∀ rs ws, IoEv.zero ∉ rs →
        (∀ m, (recreateIO libOracle crc ⟨c, rs⟩ ⟨[], ws⟩).1 ≠ .error (.panic m)) ∧
        (recreateIO libOracle crc ⟨c, rs⟩ ⟨[], ws⟩).1 ≠ .error .fuel ∧
        (recreateIO libOracle crc ⟨c, rs⟩ ⟨[], ws⟩).2.2.out <+: f ∧
        ((recreateIO libOracle crc ⟨c, rs⟩ ⟨[], ws⟩).1 = .ok () →
          (recreateIO libOracle crc ⟨c, rs⟩ ⟨[], ws⟩).2.2.out = f)) := by
  obtain ⟨c, h1, h2⟩ := library_round_trip crc f hb hf hcorr
  exact ⟨c, h1, h2, fun rs ws => library_frag_independent crc c f h2 rs ws,
    fun rs ws => library_error_clean crc c f h2 rs ws⟩

/-- non-vacuity (kernel-checked): signature look-alikes, with the concrete analysis probed at 78 9C -/
example : Proofs.libRoundTrips Proofs.libLookalikes = true := Proofs.libLookalikes_roundTrips

end Preflate

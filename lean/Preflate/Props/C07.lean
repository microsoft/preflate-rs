/-
C07 — DEFLATE parse then re-serialise is the identity on every valid stream.

Statements only; helper lemmas live in Preflate/Proofs/. The model (`parse`, `writeStream`)
is Preflate/Model/Deflate.lean over the regenerated tables of Preflate/Gen/Consts.lean.
-/
import Preflate.Proofs.Deflate
import Preflate.Proofs.TestVectors
namespace Preflate

/-- Bit level: whatever `parseBits` accepts, `writeStreamBits` re-emits exactly the bits that were
    consumed (block headers, stored padding and LEN/NLEN, dynamic headers with every run-length
    choice, every literal and (length, distance) pair including the irregular 258, final padding),
    no writer assertion fires, and the consumed part ends on a byte boundary. -/
theorem write_parse_bits (bs : Bits) (p : Parsed) (hlen : bs.length % 8 = 0)
    (h : parseBits bs = .ok p) :
    ∃ w, writeStreamBits p.blocks p.eofPadding = .ok w ∧ bs = w ++ p.rest ∧ w.length % 8 = 0 :=
  Proofs.write_parse_bits bs p hlen h

/-- Byte level (the statement of the property): for every byte string the parser accepts, writing
    the parsed blocks back yields exactly the consumed prefix of the input. -/
theorem write_parse (d : List UInt8) (p : Parsed) (h : parse d = .ok p) :
    writeStream p.blocks p.eofPadding = .ok (d.take (p.consumed d)) ∧ p.consumed d ≤ d.length :=
  Proofs.write_parse d p h

/-- Non-vacuity: a concrete stream (fixed block, literal 'a', end of block) is accepted. -/
example : (parse [0x4b, 0x04, 0x00]).toBool = true := Proofs.parse_fixed_a

end Preflate

/-
NO STREAM-LEVEL HYPOTHESIS: C01 (and C01 + C13 end to end) for the library model as a whole
(`libOracle`, Model/Library.lean), for every file of bytes BELOW 16 MiB.

`library_round_trip` (Props/Library.lean) is left with one hypothesis, `hcorr`: the correction bytes of
every accepted candidate fit the u32 length field of the container. It is not derivable in general, but
the correction data is LINEAR in the input (Proofs/CorrBound.lean):

    decompress_deflate_stream(d) = Ok(.., corrections, ..)  ⟹  corrections.len() ≤ 224 * d.len() + 202

    * the bool coder emits at most 7 bits per binary decision, 239 bits of overhead (`vp8_size`);
    * the correction codec emits EXACTLY `opsCost ops` decisions (`codec_decisions`), at most 63 for a
      well-formed operation;
    * the analysis spends at most 32 decisions per bit of input the parser consumed (`analysis_cost`,
      for a predictor whose predicted lengths are ≤ 258 and code lengths < 256 — `Chains.pred` is one),
      plus 19 for the end of the stream and at most 178 for the parameter header;
    * the parser consumed at least `blocksBits` bits (`parse_consumed`): ≥ 1 per Huffman symbol, 3 per
      block header, 14 + 3·HCLEN + 1 per run-length item for a dynamic header.

224 * N + 202 < 2^32 holds up to N = 19 173 960; 2^24 is the largest power of two below that.
-/
import Preflate.Proofs.LibrarySmall
import Preflate.Proofs.CorrBoundCount
import Preflate.Props.Library
namespace Preflate
open Proofs

/-- the VP8 bool coder: 7 bits per decision -/
theorem vp8_size (evs : List Ev) : 8 * (VP8.writeEvents evs).size ≤ 7 * evs.length + 239 :=
  Proofs.writeEvents_size_le8 evs

/-- coarse: one byte per decision -/
theorem vp8_size_coarse (evs : List Ev) : (VP8.writeEvents evs).size ≤ evs.length + 30 :=
  Proofs.writeEvents_size_le evs

/-- the codec: the number of decisions is exactly the cost of the operations -/
theorem codec_decisions (ops : List Op) (evs : List Ev) (h : encodeOps 0 ops = .ok evs) :
    evs.length = opsCost ops := by
  simpa using Proofs.encodeOps_length_eq ops 0 (by omega) evs h

/-- coarse: at most 63 decisions per well-formed operation -/
theorem codec_decisions_coarse (ops : List Op) (hwf : ∀ o ∈ ops, o.WF) (evs : List Ev)
    (h : encodeOps 0 ops = .ok evs) : evs.length ≤ 63 * ops.length :=
  Proofs.encodeOps_length_le ops hwf evs h

/-- the analysis: a tight predictor spends at most 32 decisions per input bit, 19 at the end -/
theorem analysis_cost {H : Type} (P : Pred H) (hb : PredTight P) (plain : Array Nat) (blocks : List Block)
    (pad : Nat) (hv : StreamValid plain blocks) (hpad : pad < 256)
    (ops : List Op) (he : encStream P plain blocks pad = .ok ops) :
    opsCost ops ≤ 32 * blocksBits blocks + 19 :=
  Proofs.encStream_cost P hb plain blocks pad hv hpad ops he

/-- coarse: the number of operations, for any predictor -/
theorem analysis_op_count {H : Type} (P : Pred H) (plain : Array Nat) (blocks : List Block) (pad : Nat)
    (hv : StreamValid plain blocks) (ops : List Op) (he : encStream P plain blocks pad = .ok ops) :
    ops.length ≤ 4 * totalTokens blocks + 668 * blocks.length + 2 :=
  Proofs.encStream_ops_count_le P plain blocks pad hv ops he

/-- the executable predictor is tight, for every parameter vector -/
theorem chains_tight (p : Params) : PredTight (Chains.pred p) := Proofs.chains_pred_tight p

/-- the parser: the blocks account for at most the bits of the input -/
theorem parse_consumed (d : List UInt8) (p : Parsed) (h : parse d = .ok p) :
    blocksBits p.blocks ≤ 8 * d.length :=
  Proofs.parse_bits d p h

/-- coarse: every token and every block consumed at least one bit -/
theorem parse_token_block_count (d : List UInt8) (p : Parsed) (h : parse d = .ok p) :
    totalTokens p.blocks + p.blocks.length ≤ 8 * d.length :=
  Proofs.parse_totals d p h

/-- **the correction data is linear in the input**: `decompress_deflate_stream`, either verify setting -/
theorem correction_size (verify : Bool) (d : List UInt8) (hd : d.length < 2 ^ 61)
    (plain : Array Nat) (bytes : Array UInt8) (n : Nat) (q : Params)
    (h : decompressBytes Est.estimate Chains.pred verify d = .ok (plain, bytes, n, q)) :
    bytes.size ≤ 224 * d.length + 202 :=
  Proofs.corr_size_le verify d plain bytes n q h

/-- … as the scanner sees it: the corrections stored for an accepted candidate -/
theorem library_correction_size (d : Bytes) (hd : d.length < 2 ^ 61) (r : Res)
    (h : libOracle.verified d = .ok r) : r.corr.length ≤ 224 * d.length + 202 :=
  Proofs.lib_corr_size_le d r h

/-- **C01, concrete, no stream-level hypothesis**, exact size condition -/
theorem library_round_trip_of_size (crc : Bytes → Nat) (f : Bytes)
    (hb : ∀ b ∈ f, b < 256) (hf : 224 * f.length + 202 < 2 ^ 32) :
    ∃ c, expand libOracle crc f = .ok c ∧ recreate libOracle crc c = .ok f :=
  library_round_trip crc f hb (by omega) (Proofs.lib_hcorr_of_size f hf)

/-- **C01, concrete, files below 16 MiB**: `expand` returns Ok and `recreate` of its output returns
    exactly the file — the only hypothesis is that the file consists of bytes -/
theorem library_round_trip_small (crc : Bytes → Nat) (f : Bytes)
    (hb : ∀ b ∈ f, b < 256) (hf : f.length < 2 ^ 24) :
    ∃ c, expand libOracle crc f = .ok c ∧ recreate libOracle crc c = .ok f :=
  library_round_trip_of_size crc f hb (by omega)

/-- **C01 + C13, concrete, end to end, files below 16 MiB** -/
theorem library_end_to_end_small (crc : Bytes → Nat) (f : Bytes)
    (hb : ∀ b ∈ f, b < 256) (hf : f.length < 2 ^ 24) :
    ∃ c, expand libOracle crc f = .ok c ∧ recreate libOracle crc c = .ok f ∧
      (∀ rs ws, OnlyShort rs → OnlyShort ws →
        ∃ s' k', recreateIO libOracle crc ⟨c, rs⟩ ⟨[], ws⟩ = (.ok (), s', k') ∧ k'.out = f) ∧
      (∀ rs ws, IoEv.zero ∉ rs →
        (∀ m, (recreateIO libOracle crc ⟨c, rs⟩ ⟨[], ws⟩).1 ≠ .error (.panic m)) ∧
        (recreateIO libOracle crc ⟨c, rs⟩ ⟨[], ws⟩).1 ≠ .error .fuel ∧
        (recreateIO libOracle crc ⟨c, rs⟩ ⟨[], ws⟩).2.2.out <+: f ∧
        ((recreateIO libOracle crc ⟨c, rs⟩ ⟨[], ws⟩).1 = .ok () →
          (recreateIO libOracle crc ⟨c, rs⟩ ⟨[], ws⟩).2.2.out = f)) :=
  library_end_to_end crc f hb (by omega) (Proofs.lib_hcorr_of_size f (by omega))

end Preflate

/-
Completeness direction of C07 — the model writer and the model parser are inverse on exactly the
well-formed block lists.

Statements only; the definition of `WellFormed` is Preflate/Model/WriteValid.lean, the proofs are
Preflate/Proofs/ParseWrite*.lean. Together with C07 (`write_parse`: whatever the parser accepts, the
writer re-emits) this characterises the language of the parser: `parse_iff`.
-/
import Preflate.Proofs.ParseWrite
namespace Preflate

/-- Bit level: a well-formed block list is written without any writer assertion firing, and the
    parser reads the written bits back as that block list, that final padding and that plain text,
    leaving untouched whatever (byte aligned) follows. -/
theorem parse_write_bits (plain : Array Nat) (blocks : List Block) (pad : Nat)
    (hw : WellFormed plain blocks pad) :
    ∃ w, writeStreamBits blocks pad = .ok w ∧
      ∀ rest, rest.length % 8 = 0 → parseBits (w ++ rest) = .ok ⟨blocks, pad, plain, rest⟩ :=
  Proofs.parse_write_bits plain blocks pad hw

/-- Byte level. -/
theorem parse_write (plain : Array Nat) (blocks : List Block) (pad : Nat)
    (hw : WellFormed plain blocks pad) :
    ∃ bytes, writeStream blocks pad = .ok bytes ∧
      ∀ x : List UInt8, parse (bytes ++ x) = .ok ⟨blocks, pad, plain, bytesToBits x⟩ :=
  Proofs.parse_write plain blocks pad hw

/-- Whatever the parser returns is well formed. -/
theorem parse_wellFormed (d : List UInt8) (p : Parsed) (h : parse d = .ok p) :
    WellFormed p.plain p.blocks p.eofPadding :=
  Proofs.parse_wellFormed d p h

/-- The parser accepts `d` with result `p` exactly when `d` is the serialisation of the well-formed
    block list `p.blocks` (with plain text `p.plain` and final padding `p.eofPadding`) followed by the
    bytes of `p.rest`. -/
theorem parse_iff (d : List UInt8) (p : Parsed) :
    parse d = .ok p ↔ ∃ bytes x, WellFormed p.plain p.blocks p.eofPadding ∧
      writeStream p.blocks p.eofPadding = .ok bytes ∧ d = bytes ++ x ∧ p.rest = bytesToBits x :=
  Proofs.parse_iff d p

-- Non-vacuity: a fixed block with a literal and a reference, then a stored block whose padding
-- bits are not zero, expanding to "aaaabc".

def exBlocks : List Block := [.fixed [.lit 97, .ref 3 1 false], .stored 5 [98, 99]]
def exPlain : Array Nat := #[97, 97, 97, 97, 98, 99]

theorem exBlocks_wellFormed : WellFormed exPlain exBlocks 0 := by
  refine ⟨⟨by decide, ?_, by decide⟩, ?_⟩
  · simp only [exBlocks, exPlain, ValidBlocks, ValidBlock, ValidToks, ValidTok, blockEnd, toksEnd,
      tokenLen]
    decide +kernel
  · simp only [exBlocks, BlocksCoded, BlockCoded, List.forall_mem_cons, TokCoded, blockEnd, toksEnd,
      tokenLen, List.not_mem_nil, false_imp_iff, implies_true, and_true]
    decide +kernel

/-- the theorem applied to the example -/
example : ∃ bytes, writeStream exBlocks 0 = .ok bytes ∧
    ∀ x : List UInt8, parse (bytes ++ x) = .ok ⟨exBlocks, 0, exPlain, bytesToBits x⟩ :=
  parse_write exPlain exBlocks 0 exBlocks_wellFormed

-- the stream: [74, 4, 2, 64, 10, 2, 0, 253, 255, 98, 99] (zlib inflates it to "aaaabc")

end Preflate

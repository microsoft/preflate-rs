/-
C11 — zstd wrappers round-trip; capacity and framing problems are errors.
Corollaries of C01 (`recreate_expand_partial`) and the `Zstd` laws (Model/Api.lean).
-/
import Preflate.Model.Api
import Preflate.Props.C01
namespace Preflate

/-- capacity at least the size of the expanded intermediate form ⇒ F comes back -/
theorem zstd_roundtrip (z : Zstd) (o : Oracle) (crc : Bytes → Nat) (f : Bytes)
    (hb : ∀ b ∈ f, b < 256) (hf : f.length < 2 ^ 32)
    (hpanic : ∀ d m, o.verified d ≠ .error (.panic m))
    (hsize : ∀ d r, o.verified d = .ok r → r.plain.length < 2 ^ 32 ∧ r.corr.length < 2 ^ 32) :
    ∃ c y, expand o crc f = .ok c ∧ compressZstd z o crc f = .ok y ∧
      ∀ cap, c.length ≤ cap → decompressZstd z o crc y cap = .ok f := by
  obtain ⟨c, hc, hr⟩ := recreate_expand_partial o crc f hb hf hpanic hsize
  exact ⟨c, z.compress c, hc, Proofs.zstd_of_round_trip z hc hr⟩

/-- a smaller capacity is an error: never Ok, never truncated data -/
theorem zstd_small_cap (z : Zstd) (o : Oracle) (crc : Bytes → Nat) (f c : Bytes)
    (hc : expand o crc f = .ok c) (cap : Nat) (hcap : cap < c.length) :
    compressZstd z o crc f = .ok (z.compress c) ∧
    decompressZstd z o crc (z.compress c) cap = .error .err := by
  constructor
  · simp [compressZstd, hc, bind, Except.bind]
  · simp [decompressZstd, z.too_small c cap hcap, bind, Except.bind]

/-- input that zstd rejects is rejected: an Err, not a panic -/
theorem zstd_not_frame (z : Zstd) (o : Oracle) (crc : Bytes → Nat) (y : Bytes) (cap : Nat) (e : Fail)
    (h : z.decompress y cap = .error e) :
    decompressZstd z o crc y cap = .error e ∧ ∀ m, e ≠ .panic m := by
  constructor
  · simp [decompressZstd, h, bind, Except.bind]
  · intro m hm
    exact z.no_panic y cap m (hm ▸ h)

/-- whatever decompress_zstd returns as Ok was reconstructed from an intermediate form within the
    capacity (no truncated frame is ever interpreted) -/
theorem zstd_ok_within_capacity (z : Zstd) (o : Oracle) (crc : Bytes → Nat) (y : Bytes) (cap : Nat) (f : Bytes)
    (h : decompressZstd z o crc y cap = .ok f) :
    ∃ c, z.decompress y cap = .ok c ∧ c.length ≤ cap ∧ recreate o crc c = .ok f := by
  unfold decompressZstd at h
  cases hd : z.decompress y cap with
  | error e => simp [hd, bind, Except.bind] at h
  | ok c =>
    refine ⟨c, rfl, z.bounded y cap c hd, ?_⟩
    simpa [hd, bind, Except.bind] using h

/-- Non-vacuity: the `Zstd` laws are satisfiable (a "store" codec meets all of them), so the
    theorems above are not vacuous in `z`. -/
def storeZstd : Zstd where
  compress x := x
  decompress y cap := if y.length ≤ cap then .ok y else .error .err
  compressToBuffer x cap := if x.length ≤ cap then .ok x else .error .err
  roundtrip := by intro x cap h; simp [h]
  too_small := by intro x cap h; simp [Nat.not_le.mpr h]
  bounded := by
    intro y cap x h
    by_cases hy : y.length ≤ cap
    · simp [hy] at h; exact h ▸ hy
    · simp [hy] at h
  no_panic := by
    intro y cap m
    by_cases hy : y.length ≤ cap <;> simp [hy]
  to_buffer := by intro x cap; rfl

end Preflate

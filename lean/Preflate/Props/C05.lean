/-
C05 — Analysing arbitrary bytes ends in Ok or Err: no panic, no hang (level: partial).

Proved over the model: the parser is total (its fuel-bounded loops never run out of fuel: every
iteration consumes input) and has no panic outcome, for ALL byte strings; producing corrections
for what the parser returns has no panic path for ANY predictor; serialising any in-range
parameter vector hits no `try_from().unwrap()` (C08); the codec does not hit the shift overflow
(C10); the verify = true branch succeeds whenever analysis did (C02); the array-encoded Huffman tree
is index safe (`tree_index_safe`). The estimators and the concrete hash chains are in
Props/C05Public.lean. Outside any model: stack, heap and running time.
-/
import Preflate.Proofs.TotalEnc
import Preflate.Proofs.HuffTree
import Preflate.Proofs.ChainBounds
import Preflate.Proofs.Estimator
import Preflate.Proofs.Estimator4k
import Preflate.Proofs.EndToEnd
import Preflate.Proofs.TestVectors
import Preflate.Props.C08
import Preflate.Props.C10
namespace Preflate

/-- all byte strings: the parser returns Ok or Err, never a panic -/
theorem parse_no_panic (d : List UInt8) (m : String) : parse d ≠ .error (.panic m) :=
  Proofs.parseBits_no_panic (bytesToBits d) m

/-- all byte strings: the parser terminates without exhausting its loop bound ("no hang") -/
theorem parse_no_fuel (d : List UInt8) : parse d ≠ .error .fuel :=
  Proofs.parseBits_no_fuel (bytesToBits d)

/-- index safety of the array-encoded Huffman tree (huffman_helper.rs `calculate_huffman_code_tree` /
    `decode_symbol`, transcribed literally in Model/HuffTree.lean): for every length vector the
    validity check accepts, building stays inside the allocated array and walking never indexes out
    of range, whatever the input bits -/
theorem tree_index_safe (l : List Nat) (h : validLengths l = true) :
    ∃ t, buildTree l = .ok t ∧ ∀ bs m, decodeSymTree t bs ≠ .error (.panic m) :=
  Proofs.tree_index_safe l h

/-- the abstraction of the hash chains' position arithmetic to (total shift, plaintext position) is
    what the executable chain model does -/
theorem policyUpdate_totalShift (p : Params) (plain : Array Nat) (c : Chains.Chain) (pos len : Nat) :
    (Chains.policyUpdate p plain c pos len).totalShift =
      Chains.shiftAfter c.totalShift (Chains.updateCalls p pos len) :=
  Proofs.policyUpdate_totalShift p plain c pos len

/-- position arithmetic kept inside u16 by the periodic reshift: for every parameter vector with a
    hash chain, every sequence of token lengths 1..258, no `from_absolute` (chain iteration at the
    token start, both offsets) and no `inc` (insertion loop) ever leaves the u16 range. `_partial`:
    for the 4 KiB-boundary add policy the estimator's own side condition is assumed (no reference
    starts in the last three positions of a 4 KiB page; the policy skips the update there and with it
    the reshift test). Without a hash chain (`hashAlg = 0`) the code never iterates a chain; the
    abstract statement is false there (`Proofs.chain_positions_in_u16_unrestricted_false`). -/
theorem chain_positions_in_u16_partial (p : Params) (hh : p.hashAlg ≠ 0) (lens : List Nat)
    (hl : ∀ l ∈ lens, 1 ≤ l ∧ l ≤ 258)
    (h4k : p.addPolicy = 3 → Chains.NoRefAt4k 0 lens) :
    Chains.RunSafe p (-8) 0 lens :=
  Proofs.chain_positions_in_u16_partial p hh lens hl h4k

/-- the same without the side condition, for the add policy the estimator itself chooses: over what
    the parser returns (`Chains.streamLens`: the token lengths the predictor commits, stored bytes one
    by one) and any hash algorithm, `estimate_add_policy` answers the 4 KiB-boundary policy only when
    no reference starts in the last three positions of a 4 KiB page (`addPolicy_4k`), which is exactly
    what `chain_positions_in_u16_partial` assumed -/
theorem chain_positions_in_u16_estimated (plain : Array Nat) (blocks : List Block)
    (hv : StreamValid plain blocks) (p : Params) (hh : p.hashAlg ≠ 0) (pol lim : Nat)
    (he : Est.addPolicy blocks = .ok (pol, lim)) (hp : p.addPolicy = pol) :
    Chains.RunSafe p (-8) 0 (Chains.streamLens blocks) :=
  Proofs.chain_positions_in_u16_estimated plain blocks hv p hh pol lim he hp

/-- the front part of the parameter estimator (extract_preflate_info, strategy / Huffman strategy,
    window bits, block size, estimate_add_policy — Model/Estimator.lean, compared with the code by the
    `estimate` requests) has no panic path on anything the parser returns: the only candidate, the u32
    subtraction `current_offset - dist` of estimate_add_policy, cannot underflow because the parser
    admits a reference only when its distance does not exceed the bytes produced -/
theorem estimator_front_no_panic (d : List UInt8) (p : Parsed)
    (hp : parse d = .ok p) (m : String) : Est.front p.blocks ≠ .error (.panic m) :=
  Proofs.front_no_panic p.plain p.blocks (Proofs.parse_valid_unbounded (bytesToBits d) p hp).1 m

/-- on ANY block list the front part ends in Ok or in that one panic: no other failure, no fuel -/
theorem estimator_front_total (blocks : List Block) :
    (∃ f, Est.front blocks = .ok f) ∨
      Est.front blocks = .error (.panic "estimate_add_policy: subtract with overflow") :=
  Proofs.front_total blocks

variable {H : Type}

/-- analysis of a valid block list has no panic path, for any predictor -/
theorem encStream_no_panic (P : Pred H) (plain : Array Nat) (blocks : List Block) (pad : Nat)
    (hv : StreamValid plain blocks)
    (hP : ∀ s m, P.repredictTok plain s ≠ .error (.panic m)) (m : String) :
    encStream P plain blocks pad ≠ .error (.panic m) :=
  Proofs.encStream_no_panic P plain blocks pad hv hP m

/-- the verify = true branch: when analysis succeeded, reconstruction succeeds (no panic, no Err) -/
theorem verify_path_ok (P : Pred H) (plain : Array Nat) (blocks : List Block) (pad : Nat)
    (hv : StreamValid plain blocks) (hpad : pad < 256) (ops : List Op)
    (he : encStream P plain blocks pad = .ok ops) :
    decStream P plain ops = .ok (blocks, pad, []) := by
  simpa using decStream_encStream P plain blocks pad hv hpad ops he []

/-- Non-vacuity: noise and a truncated stream are rejected with Err, a valid one is accepted -/
def isErr : R Parsed → Bool
  | .error .err => true
  | _ => false

example : isErr (parse [0xff, 0xff, 0xff]) = true ∧ isErr (parse [0x4b, 0x04]) = true ∧
    (parse [0x4b, 0x04, 0x00]).toBool = true :=
  ⟨by decide +kernel, by rw [Proofs.parse_fixed_a_truncated]; rfl, Proofs.parse_fixed_a⟩

end Preflate

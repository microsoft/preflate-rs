/-
C11 / C12 at the concrete library: the zstd pair and the two C ABI wrappers over `libOracle` (the
byte-level model of the stream functions with the modelled estimator and the executable predictor),
for every file below 16 MiB, with no hypothesis about the stream analysis left — only the laws of the
abstract `Zstd` (the C library, validated against the real one by the harness on every run).
-/
import Preflate.Props.LibrarySmall
import Preflate.Props.C11
import Preflate.Props.C12
namespace Preflate

/-- decompress_zstd(compress_zstd(F), capacity) = F for every capacity at least the size of the
    expanded form -/
theorem library_zstd_roundtrip_small (z : Zstd) (crc : Bytes → Nat) (f : Bytes)
    (hb : ∀ b ∈ f, b < 256) (hf : f.length < 2 ^ 24) :
    ∃ c y, expand libOracle crc f = .ok c ∧ compressZstd z libOracle crc f = .ok y ∧
      ∀ cap, c.length ≤ cap → decompressZstd z libOracle crc y cap = .ok f := by
  obtain ⟨c, hc, hr⟩ := library_round_trip_small crc f hb hf
  exact ⟨c, z.compress c, hc, Proofs.zstd_of_round_trip z hc hr⟩

/-- the two C ABI wrappers: status 0 with the right sizes when the buffers suffice, -1 for an undersized
    output buffer, and the round trip -/
theorem library_wrapper_roundtrip_small (z : Zstd) (crc : Bytes → Nat) (f : Bytes)
    (hb : ∀ b ∈ f, b < 256) (hf : f.length < 2 ^ 24) :
    ∃ c, expand libOracle crc f = .ok c ∧
      ∀ capC, (z.compress c).length ≤ capC → c.length ≤ wrapperIntermediateLimit →
        wrapCompress z libOracle crc f capC = (0, z.compress c) ∧
        (∀ capD, f.length ≤ capD → wrapDecompress z libOracle crc (z.compress c) capD = (0, f)) ∧
        (∀ capD, capD < f.length → (wrapDecompress z libOracle crc (z.compress c) capD).1 = -1) := by
  obtain ⟨c, hc, hr⟩ := library_round_trip_small crc f hb hf
  exact ⟨c, hc, fun _ hC hlim => Proofs.wrapper_of_round_trip z hc hr hC hlim⟩

end Preflate

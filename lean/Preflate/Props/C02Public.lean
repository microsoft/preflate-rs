/-
C02 / C08, CONCRETE: the public pair with the model's own parameter estimator (`Est.estimate`,
Model/EstimatorFull.lean — all 19 fields compared with the code on every run) and the executable
predictor family (`Chains.pred`, Model/Chains.lean — correction bytes compared with the code on every
run). No hypothesis is left on the estimator or the predictor: `estimate_in_range` shows that the
estimator's output always lies in the range the parameter header can carry. This is the function the
`public` requests execute against `decompress_deflate_stream`.
-/
import Preflate.Proofs.EstimateRange
import Preflate.Props.C02
import Preflate.Proofs.DecodeBytes
namespace Preflate

/-- the complete parameter estimator, on any valid stream (in particular on whatever the parser
    returns), only emits vectors in `EstimatorRange` — the hypothesis `hest` of the generic theorems,
    discharged. (On block lists the parser cannot produce the statement is false:
    `Proofs.Counter.estimate_not_in_range`, a length-2 reference gives `min_len = 2`.) -/
theorem estimate_in_range (plain : Array Nat) (blocks : List Block) (p : Params)
    (hv : StreamValid plain blocks) (h : Est.estimate plain blocks = .ok p) : EstimatorRange p :=
  Proofs.estimate_in_range plain blocks p hv h

/-- THE PUBLIC PAIR: whenever the model of `decompress_deflate_stream` returns Ok(r), with either
    verify setting, the model of `recompress_deflate_stream` on r's plaintext and corrections returns
    exactly D[..r.size] -/
theorem public_pair_exact (verify : Bool) (d : List UInt8) (r : StreamResult)
    (h : decompressStream Est.estimate Chains.pred verify d = .ok r) :
    recompressStream Chains.pred r.plain r.corr = .ok (d.take r.size) ∧ r.size ≤ d.length :=
  Proofs.public_pair_exact verify d r h

/-- both verify settings are the same function -/
theorem public_verify_same (d : List UInt8) :
    decompressStream Est.estimate Chains.pred true d = decompressStream Est.estimate Chains.pred false d :=
  Proofs.public_verify_same d

/-- the result depends only on D[..r.size] -/
theorem public_prefix (verify : Bool) (d : List UInt8) (r : StreamResult)
    (h : decompressStream Est.estimate Chains.pred verify d = .ok r) (x : List UInt8) :
    decompressStream Est.estimate Chains.pred verify (d.take r.size ++ x) = .ok r :=
  decompress_prefix Est.estimate Chains.pred verify d r h x

/-- BYTE LEVEL, end to end: the corrections encode to bytes, the bytes read back through the bool
    coder decode to the corrections, and reconstruction returns D[..r.size] -/
theorem public_bytes_chain (verify : Bool) (d : List UInt8) (r : StreamResult)
    (h : decompressStream Est.estimate Chains.pred verify d = .ok r) :
    ∃ evs bytes, encodeOps 0 r.corr = .ok evs ∧ encodeBytes r.corr = .ok bytes ∧
      decodeOps 0 (r.corr.map Op.kind) (VP8.readEvents bytes (evs.map (·.ctx))) = .ok (r.corr, 0, []) ∧
      recompressStream Chains.pred r.plain r.corr = .ok (d.take r.size) :=
  Proofs.public_bytes_chain verify d r h

/-- AT THE REAL API TYPE (bytes in, bytes out): `decompressBytes` = `decompress_deflate_stream`
    returning the correction BYTES (for verify = true the verification runs from the bytes, as in the
    code), `recompressBytes` = `recompress_deflate_stream`: a demand-driven decoder that pulls every
    value out of the VP8 reader over the correction bytes as the reconstruction asks for it
    (Model/DecodeBytes.lean: `PredictionDecoderCabac` transcribed; the generic decoders instantiated at
    the list source ARE the existing ones, `Proofs.decStreamS_list`). Whenever the split returns
    Ok(plain, bytes, n, _), reconstruction from the bytes returns exactly D[..n]. (`hd`: the model bounds
    the block loop, which is unbounded in the code, by 2^64 iterations.) -/
theorem public_bytes_exact (verify : Bool) (d : List UInt8)
    (plain : Array Nat) (bytes : Array UInt8) (n : Nat) (q : Params)
    (h : decompressBytes Est.estimate Chains.pred verify d = .ok (plain, bytes, n, q))
    (hd : d.length < 2 ^ 61) :
    recompressBytes Chains.pred plain bytes = .ok (d.take n) :=
  Proofs.public_bytes_exact verify d plain bytes n q h hd

/-- both verify settings of the byte-level function return the same result -/
theorem public_bytes_verify_same (d : List UInt8) (hd : d.length < 2 ^ 61)
    (plain : Array Nat) (bytes : Array UInt8) (n : Nat) (q : Params) :
    decompressBytes Est.estimate Chains.pred true d = .ok (plain, bytes, n, q) ↔
    decompressBytes Est.estimate Chains.pred false d = .ok (plain, bytes, n, q) :=
  Proofs.public_bytes_verify_same d hd plain bytes n q

/-- the same for ANY estimator (a function of the parse result, in range on it) and ANY bounded
    predictor family -/
theorem recompressBytes_decompressBytes {H : Type} (est : Array Nat → List Block → R Params)
    (mk : Params → Pred H) (hb : ∀ q, PredBounded (mk q)) (verify : Bool) (d : List UInt8)
    (hest : ∀ p, parse d = .ok p → ∀ q, est p.plain p.blocks = .ok q → EstimatorRange q)
    (plain : Array Nat) (bytes : Array UInt8) (n : Nat) (q : Params)
    (h : decompressBytes est mk verify d = .ok (plain, bytes, n, q)) (hd : d.length < 2 ^ 61) :
    recompressBytes mk plain bytes = .ok (d.take n) :=
  Proofs.recompressBytes_decompressBytes est mk hb verify d hest plain bytes n q h hd

/-- the level tables the model's estimator uses are the ones in the source now -/
theorem level_tables_match_source :
    Est.ZLIB_SETTINGS.map (fun c => (c.goodLength, c.maxLazy, c.niceLength, c.maxChain)) = Gen.FAST_LEVELS ∧
    Est.SLOW_SETTINGS.map (fun c => (c.goodLength, c.maxLazy, c.niceLength, c.maxChain)) = Gen.SLOW_LEVELS ∧
    Est.ZLIB_SETTINGS.all (fun c => !c.isLazy) = true ∧ Est.SLOW_SETTINGS.all (fun c => c.isLazy) = true := by
  decide

end Preflate

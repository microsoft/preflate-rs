/-
C12 — C ABI wrappers respect caller buffers, report status, round-trip (level: partial).

Proved over Model/Api.lean: status 0 only with a result that fits the caller's capacity and is
the bytes produced; undersized buffers give a negative status; an inner panic is reported as -2;
round trip through the two wrappers for files whose expanded form is at most 128 MiB. NOT provable
in a model: "never writes outside [buf, buf + size)" and "never unwinds into the caller" are facts
about the unsafe slice construction and the runtime; they are observed with guard bytes.
-/
import Preflate.Model.Api
import Preflate.Props.C01
namespace Preflate

/-- status 0 ⇒ the reported size fits the output capacity (compress side) -/
theorem wrapCompress_status (z : Zstd) (o : Oracle) (crc : Bytes → Nat) (input : Bytes) (cap : Nat) :
    ((wrapCompress z o crc input cap).1 = 0 → (wrapCompress z o crc input cap).2.length ≤ cap) ∧
    ((wrapCompress z o crc input cap).1 = 0 ∨ (wrapCompress z o crc input cap).1 = -1 ∨
     (wrapCompress z o crc input cap).1 = -2) := by
  unfold wrapCompress
  cases he : expand o crc input with
  | error e => cases e <;> simp [statusOf, bind, Except.bind]
  | ok c =>
    simp only [bind, Except.bind, z.to_buffer c cap]
    by_cases hfit : (z.compress c).length ≤ cap
    · simp [hfit, statusOf]
    · simp [hfit, statusOf]

/-- an undersized compress buffer gives a negative status -/
theorem wrapCompress_undersized (z : Zstd) (o : Oracle) (crc : Bytes → Nat) (input c : Bytes) (cap : Nat)
    (he : expand o crc input = .ok c) (hcap : cap < (z.compress c).length) :
    (wrapCompress z o crc input cap).1 = -1 := by
  unfold wrapCompress
  simp [he, bind, Except.bind, z.to_buffer c cap, Nat.not_le.mpr hcap, statusOf]

/-- status 0 ⇒ the reported size fits the output capacity (decompress side) -/
theorem wrapDecompress_status (z : Zstd) (o : Oracle) (crc : Bytes → Nat) (input : Bytes) (cap : Nat) :
    (wrapDecompress z o crc input cap).1 = 0 → (wrapDecompress z o crc input cap).2.length ≤ cap := by
  unfold wrapDecompress
  cases hd : z.decompress input wrapperIntermediateLimit with
  | error e => cases e <;> simp [statusOf, bind, Except.bind]
  | ok c =>
    cases hr : recreate o crc c with
    | error e => cases e <;> simp [statusOf, bind, Except.bind, hr]
    | ok f =>
      simp only [bind, Except.bind, intoCursor, hr]
      by_cases hfit : f.length ≤ cap
      · simp [hfit, statusOf]
      · simp [hfit, statusOf]

/-- an inner panic is reported as -2, an inner Err as -1 -/
theorem wrapDecompress_panic_status (z : Zstd) (o : Oracle) (crc : Bytes → Nat) (input c : Bytes) (cap : Nat) (m : String)
    (hd : z.decompress input wrapperIntermediateLimit = .ok c) (hr : recreate o crc c = .error (.panic m)) :
    (wrapDecompress z o crc input cap).1 = -2 := by
  unfold wrapDecompress
  simp [hd, hr, bind, Except.bind, statusOf]

/-- compress then decompress through the two wrappers returns the file, for every file whose
    expanded form is at most 128 MiB, every sufficient pair of capacities; and an output buffer
    smaller than the file gives -1 -/
theorem wrapper_roundtrip (z : Zstd) (o : Oracle) (crc : Bytes → Nat) (f : Bytes)
    (hb : ∀ b ∈ f, b < 256) (hf : f.length < 2 ^ 32)
    (hpanic : ∀ d m, o.verified d ≠ .error (.panic m))
    (hsize : ∀ d r, o.verified d = .ok r → r.plain.length < 2 ^ 32 ∧ r.corr.length < 2 ^ 32) :
    ∃ c, expand o crc f = .ok c ∧
      ∀ capC, (z.compress c).length ≤ capC → c.length ≤ wrapperIntermediateLimit →
        wrapCompress z o crc f capC = (0, z.compress c) ∧
        (∀ capD, f.length ≤ capD → wrapDecompress z o crc (z.compress c) capD = (0, f)) ∧
        (∀ capD, capD < f.length → (wrapDecompress z o crc (z.compress c) capD).1 = -1) := by
  obtain ⟨c, hc, hr⟩ := recreate_expand_partial o crc f hb hf hpanic hsize
  exact ⟨c, hc, fun _ hC hlim => Proofs.wrapper_of_round_trip z hc hr hC hlim⟩

/-- the bound the wrapper puts on the expanded form is the one REGENERATED from lib.rs
    (`Gen.WRAPPER_INTERMEDIATE_LIMIT`), and it admits every expanded form of at most 128 MiB — what the
    property quantifies over (a larger bound would be fine, a smaller one is a violation) -/
theorem wrapper_limit :
    wrapperIntermediateLimit = Gen.WRAPPER_INTERMEDIATE_LIMIT ∧ 1024 * 1024 * 128 ≤ wrapperIntermediateLimit := by
  decide

end Preflate

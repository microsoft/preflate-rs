/-
C02 — Stream split / reconstruct is exact whenever the split succeeds, and
C08 — reconstruction never depends on the estimated parameters being right (same theorem:
the predictor `P` — every hash algorithm, add policy, matching type, nice length, chain depth,
window size, block size, flag, and the Huffman length calculator — is universally quantified).

Model: Preflate/Model/Predict.lean (written once over the `Pred` interface), Model/Valid.lean.
Statements only; lemmas are in Preflate/Proofs/Predict*.lean, Stream.lean, OpsWF.lean.
-/
import Preflate.Proofs.Predict
import Preflate.Proofs.Expands
import Preflate.Proofs.Stream
import Preflate.Proofs.OpsWF
import Preflate.Proofs.ChainsBounded
import Preflate.Proofs.TestVectors
import Preflate.Props.C10
import Preflate.Gen.Consts
namespace Preflate

variable {H : Type}

/-- `calculate_hops` (analysis) is inverted by `hop_match` (reconstruction) on the same chain. -/
theorem hops_inv (P : Pred H) (plain : Array Nat) (s : PState H) (len dist h : Nat)
    (hm : matchAt plain s.pos len dist = true)
    (hh : calcHops P plain s len dist = .ok h) :
    h ≠ 0 ∧ hopMatch P plain s len h = .ok dist :=
  Proofs.hops_inv P plain s len dist h hm hh

/-- The dynamic-header mirror, for any bit-length calculator. -/
theorem decTree_encTree (P : Pred H) (h : Header) (hv : HeaderValid h) (freq : List Nat × List Nat)
    (ops : List Op) (he : encTree P h freq = .ok ops) (rest : List Op) :
    decTree P freq (ops ++ rest) = .ok (h, rest) :=
  Proofs.decTree_encTree P h hv freq ops he rest

/-- For ANY predictor: if producing the corrections for a valid block list succeeds, then
    reconstruction from those corrections (followed by anything) returns exactly the blocks and the
    final padding and consumes exactly those corrections. Token-count signalling, EOF / BFINAL
    signalling, stored blocks, the irregular 258 flag and the header mirror are all inside. -/
theorem decStream_encStream (P : Pred H) (plain : Array Nat) (blocks : List Block) (pad : Nat)
    (hv : StreamValid plain blocks) (hpad : pad < 256) (ops : List Op)
    (he : encStream P plain blocks pad = .ok ops) (rest : List Op) :
    decStream P plain (ops ++ rest) = .ok (blocks, pad, rest) :=
  Proofs.decStream_encStream P plain blocks pad hv hpad ops he rest

/-- What the parser returns is a valid expansion of the plaintext it returns (the hypothesis of the
    mirror theorem is what `parse` guarantees) — for EVERY input: the parser's 2 GiB guard
    (`check_plain_text_size`, mirrored in the model) bounds the token count of a block, which the code
    converts to u32. -/
theorem parse_valid (bs : Bits) (p : Parsed) (h : parseBits bs = .ok p) :
    StreamValid p.plain p.blocks ∧ p.eofPadding < 256 :=
  Proofs.parse_valid_unbounded bs p h

/-- accepted streams stay below 2 GiB of plaintext and 2^31 - 1 tokens per block -/
theorem accepted_stream_bounds (d : List UInt8) (p : Parsed) (h : parse d = .ok p) :
    p.plain.size ≤ 2147483647 ∧ ∀ b ∈ p.blocks, (blockTokens b).length < 2 ^ 31 - 1 :=
  ⟨Proofs.parse_plain_lt d p h, Proofs.parse_tokens_lt d p h⟩

/-- END TO END, for ANY predictor: if analysing an accepted stream yields corrections, then
    reconstruction from those corrections followed by the block writer returns exactly the bytes
    the parser consumed: recompress(analyze D) = D[..compressed_size] at the level of operations
    (C10 carries operations to binary decisions). -/
theorem recompress_analyze (P : Pred H) (d : List UInt8) (p : Parsed)
    (hp : parse d = .ok p) (ops : List Op) (he : encStream P p.plain p.blocks p.eofPadding = .ok ops) :
    ∃ blocks pad, decStream P p.plain ops = .ok (blocks, pad, []) ∧
      writeStream blocks pad = .ok (d.take (p.consumed d)) :=
  Proofs.recompress_analyze P d p hp ops he


/-- BYTE LEVEL: the parser's result depends only on the bytes it consumed — removing or replacing
    what follows `D[..compressed_size]` gives the same blocks, padding, plaintext and size. -/
theorem parse_prefix (d : List UInt8) (p : Parsed) (h : parse d = .ok p) (x : List UInt8) :
    parse (d.take (p.consumed d) ++ x) = .ok { p with rest := bytesToBits x } ∧
    ({ p with rest := bytesToBits x } : Parsed).consumed (d.take (p.consumed d) ++ x) = p.consumed d :=
  ⟨Proofs.parse_prefix d p h x, Proofs.consumed_prefix d p h x⟩

/-- THE PUBLIC PAIR (Model/Stream.lean: `decompress_deflate_stream` / `recompress_deflate_stream` at the
    level of codec operations), for ANY estimator that is a function of the parse result and stays in
    the range the parameter header can carry, and ANY predictor family: whenever the split returns
    Ok(r), with either verify setting, reconstruction returns exactly D[..r.size]. -/
theorem recompress_decompress (est : Array Nat → List Block → R Params) (mk : Params → Pred H)
    (hest : ∀ pl bl q, est pl bl = .ok q → EstimatorRange q)
    (verify : Bool) (d : List UInt8) (r : StreamResult)
    (h : decompressStream est mk verify d = .ok r) :
    recompressStream mk r.plain r.corr = .ok (d.take r.size) ∧ r.size ≤ d.length :=
  Proofs.recompress_decompress est mk hest verify d r h

/-- both verify settings return the same result: the verify=true block (re-read of the parameters
    with its `assert_eq!`, reconstruction, comparison) always passes when the analysis succeeded, so it
    changes neither Ok/Err nor r -/
theorem verify_same (est : Array Nat → List Block → R Params) (mk : Params → Pred H)
    (hest : ∀ pl bl q, est pl bl = .ok q → EstimatorRange q)
    (d : List UInt8) :
    decompressStream est mk true d = decompressStream est mk false d :=
  Proofs.verify_same est mk hest d

/-- the result depends only on D[..r.size]: removing or replacing the bytes after it changes nothing -/
theorem decompress_prefix (est : Array Nat → List Block → R Params) (mk : Params → Pred H)
    (verify : Bool) (d : List UInt8) (r : StreamResult)
    (h : decompressStream est mk verify d = .ok r) (x : List UInt8) :
    decompressStream est mk verify (d.take r.size ++ x) = .ok r :=
  Proofs.decompress_prefix est mk verify d r h x

/-- every operation the analysis emits is one the codec theorem (C10) covers: widths 1..16 with
    fitting values, contexts inside the enums, corrections below 2^31 — for ANY predictor whose
    predicted lengths and bit lengths stay below 2^30 (`PredBounded`; false for unbounded predictors:
    `Proofs.Counter.cxTok_not_wf`, `cxLen_not_wf`), on plaintexts below 2^31 - 1 bytes (tight:
    `Proofs.Counter.token_count_counterexample` — a block of 2^31 - 1 tokens makes the codec compute
    `1u32 << 32`; the code's 2 GiB guard keeps accepted streams below that) -/
theorem analysis_ops_wf (P : Pred H) (hb : PredBounded P) (plain : Array Nat) (blocks : List Block)
    (pad : Nat) (hv : StreamValid plain blocks) (hpad : pad < 256) (hsize : plain.size < 2 ^ 31 - 1)
    (ops : List Op) (he : encStream P plain blocks pad = .ok ops) : ∀ o ∈ ops, o.WF :=
  Proofs.encStream_ops_wf P hb plain blocks pad hv hpad hsize ops he

/-- the executable predictor (seven hashes, u16 chains, lazy matching, zlib length calculator with
    its `Vec<u8>` result type) is bounded, for every parameter vector -/
theorem chains_pred_bounded (p : Params) : PredBounded (Chains.pred p) :=
  Proofs.chains_pred_bounded p

/-- BYTE LEVEL, end to end: whenever the split returns Ok(r) (either verify setting; plaintext below
    2 GiB, which the code's guard enforces), the corrections r.corr encode to bytes; read back through
    the bool coder under the encoder's context sequence those bytes yield the encoder's decisions
    (`vp8_lossless`), which decode under the encoder's kind sequence to exactly r.corr
    (`decode_encode`); and reconstruction from r.corr returns exactly D[..r.size]. The decoders'
    demands are modelled by check-and-fail (asking for a context / kind other than the next item's is
    a failure), so success means a demand-driven decoder asks exactly these sequences. -/
theorem decompress_bytes_chain (est : Array Nat → List Block → R Params) (mk : Params → Pred H)
    (hest : ∀ pl bl q, est pl bl = .ok q → EstimatorRange q) (hb : ∀ q, PredBounded (mk q))
    (verify : Bool) (d : List UInt8) (r : StreamResult)
    (h : decompressStream est mk verify d = .ok r) :
    ∃ evs bytes, encodeOps 0 r.corr = .ok evs ∧ encodeBytes r.corr = .ok bytes ∧
      decodeOps 0 (r.corr.map Op.kind) (VP8.readEvents bytes (evs.map (·.ctx))) = .ok (r.corr, 0, []) ∧
      recompressStream mk r.plain r.corr = .ok (d.take r.size) :=
  Proofs.decompress_bytes_chain est mk hest hb verify d r h

/-- Non-vacuity: with a predictor that always predicts a literal and a fixed in-range parameter
    vector, the one-literal fixed-Huffman stream 4b 04 00 (followed by junk) is accepted with verify on. -/
def trivialPred : Pred Unit where
  init := ()
  maxTokenCount := 16386
  windowBytes := 32768
  predictTok := fun _ _ => (.lit, none)
  repredictTok := fun _ _ => .error .err
  candidates := fun _ _ => []
  update := fun _ _ _ _ => ()
  calcBitLengths := fun f _ => f.map (fun _ => 0)

def trivialParams : Params := ⟨0, 0, true, 15, 1, 5, 32767, 16383, 4096, false, false, true, 8, 16, 128, 128, 3, 0, 0⟩

example : (decompressStream (fun _ _ => .ok trivialParams) (fun _ => trivialPred) true
    [0x4b, 0x04, 0x00, 0xff, 0x17]).toBool = true := by
  rw [decompressStream, show ([0x4b, 0x04, 0x00, 0xff, 0x17] : List UInt8) = [0x4b, 0x04, 0x00] ++ [0xff, 0x17] from rfl,
    Proofs.parse_fixed_a_then]
  decide +kernel

/-- The context numbers the model uses are the declaration order of the enums in the source now. -/
theorem context_numbers_match_source :
    Gen.MISPREDICTION_NAMES = ["EOFMisprediction", "LiteralPredictionWrong", "ReferencePredictionWrong",
      "IrregularLen258", "TreeCodeCountMisprediction", "LiteralCountMisprediction",
      "DistanceCountMisprediction", "MAX"] ∧
    Gen.CORRECTION_NAMES = ["TokenCount", "NonZeroPadding", "BlockTypeCorrection", "LenCorrection",
      "DistOnlyCorrection", "DistAfterLenCorrection", "TreeCodeBitLengthCorrection", "LDTypeCorrection",
      "RepeatCountCorrection", "LDBitLengthCorrection", "MAX"] ∧
    Gen.BLOCK_TYPE_NAMES = ["DynamicHuff", "Stored", "StaticHuff"] ∧ Gen.BLOCK_TYPE_VALUES = [0, 1, 2] ∧
    Gen.TREE_CODE_VALUES = [0, 16, 17, 18] := by
  decide

end Preflate
